import Chiritori.Lemmas.DecideLit
import Chiritori.Lemmas.Totality
import Chiritori.Lemmas.ListTotal
/-
  C01 — Totality: clean, list and list_all never panic on any UTF-8 input.

  In the model every Rust panic site is an `Except.error` (slice / replace_range at a non-boundary or with
  start > end, `v[i]` out of range, `usize` subtraction below zero, the explicit `panic!` of EmptyLineRemover).
  `Statement` is the full property, `c01` its proof.  That the result of `clean` is valid UTF-8 holds by typing, the
  model's texts being lists of characters.  The panic sites of the defects D3 and D10 are excluded by `markers_facts`
  (markers sorted, disjoint, boundary-aligned, pair indices in range), that of D15 by `formatCollect_ok` (every
  formatter range is boundary-aligned whitespace).  For the listing functions the point is `buildItem_total`: on a
  non-empty boundary-aligned region none of the five slices and seven `usize` subtractions of
  `build_pretty_string_item` can fail.
  Outside every theorem: stack depth and allocation failure.
-/
namespace Chiritori.Props.C01
open Chiritori Chiritori.Spec

def isOk {α} : R α → Prop
  | .ok _ => True
  | .error _ => False

def Statement : Prop :=
  ∀ (src ds de : List Char) (cfg : Cfg), ds ≠ [] → de ≠ [] →
    isOk (clean src ds de cfg) ∧
    isOk (list src ds de cfg false) ∧ isOk (list src ds de cfg true) ∧
    isOk (listAll src ds de cfg false) ∧ isOk (listAll src ds de cfg true)

theorem c01_clean (src ds de : List Char) (cfg : Cfg) (_ : ds ≠ []) (hde : de ≠ []) :
    ∃ out, clean src ds de cfg = .ok out := clean_total src ds de cfg hde

/-- ... and whatever it returns re-encodes to a well-formed byte string (valid UTF-8 in the abstraction): so does
    every list of characters, the hypothesis is not used -/
theorem c01_clean_utf8 (src ds de : List Char) (cfg : Cfg) (out : List Char) (_ : clean src ds de cfg = .ok out) :
    wellFormed (bytesOf out) = true := by
  simp [wellFormed]

theorem isOk_of_ok {α} {x : R α} (h : ∃ r, x = .ok r) : isOk x := by
  obtain ⟨r, hr⟩ := h; rw [hr]; trivial

-- `isOk` is sealed here: to see what kind of proposition `isOk (clean ..)` is, Lean would unfold the whole of `clean`
attribute [local irreducible] isOk in
/-- C01, full statement: none of the five entry points can panic -/
theorem c01 : Statement := by
  intro src ds de cfg _ hde
  exact ⟨isOk_of_ok (clean_total src ds de cfg hde),
    isOk_of_ok (list_total src ds de cfg false hde), isOk_of_ok (list_total src ds de cfg true hde),
    isOk_of_ok (listAll_total src ds de cfg false hde), isOk_of_ok (listAll_total src ds de cfg true hde)⟩

/-- the facts about the markers that both listing functions start from -/
theorem c01_markers (src ds de : List Char) (cfg : Cfg) (hde : de ≠ []) :
    MSorted (buildRemoveMarker cfg (bytesOf src) (parseSource src ds de)) 0 (blen src) ∧
    MAll (BPos (bytesOf src)) (buildRemoveMarker cfg (bytesOf src) (parseSource src ds de)) :=
  ⟨(markers_facts src ds de cfg hde).1, (markers_facts src ds de cfg hde).2.1⟩

/-! Kernel-evaluated instances: the witnesses of the defects D1, D2, D3, D15. -/
def cfg0 : Cfg := ⟨"tl".toList, "rm".toList, 1577836800, 0, "+00:00".toList, ["a".toList]⟩
def okB {α} : R α → Bool
  | .ok _ => true
  | .error _ => false
example : okB (clean "\n<\nあ".toList "<".toList ">".toList cfg0) = true := by decide_lit cfg0
example : okB (clean "x< >y".toList "<".toList ">".toList cfg0) = true := by decide_lit cfg0
example : okB (clean "<tl to='2000-01-01 00:00:00' unwrap-block>\n<rm name='a'>\n{\n</rm>\n</tl>\nz\n".toList
    "<".toList ">".toList cfg0) = true := by decide_lit cfg0
example : okB (clean "pre\n  a <tl to='2000-01-01 00:00:00' unwrap-block>\n{ <rm name='a'>\nx\n</rm>é  y\nbody\n}\n</tl>\n".toList
    "<".toList ">".toList cfg0) = true := by decide_lit cfg0
example : okB (listAll "x< >y<rm name='b'>\n</rm>".toList "<".toList ">".toList cfg0 true) = true := by decide_lit cfg0

end Chiritori.Props.C01
