import Chiritori.Lemmas.DecideLit
import Chiritori.Props.C12
import Chiritori.Props.C13Doc
/-
  C12 at document level (text after removal, block-style seams): on every non-blank line the formatting pass deletes
  exactly the union of the ranges the block indent remover computes for the unwrapped blocks around the line.
-/
namespace Chiritori.Props.C12
open Chiritori Chiritori.Spec Chiritori.Props.C13

/-- C12 at the level of the text after removal, block-style seams: the pass deletes every byte of every range the block
    indent remover computes, and on a non-blank line it deletes nothing else -/
theorem c12_deleted (s1 : List Char) (pos : List (Nat × Option Nat)) (o : Bytes)
    (hps : PosSorted pos) (hbs : BlockStyleK (bytesOf s1) (pos.map (·.1)))
    (hf : format (bytesOf s1) pos = .ok o) :
    ∃ F, o = minusFrom (bytesOf s1) 0 F ∧
      (∀ r, BlockRangeOf (bytesOf s1) pos pos r → ∀ d, Rng.contains r d = true → inAny F d = true) ∧
      (∀ ls le x, IsLS (bytesOf s1) ls → ls ≤ x → x < le → le ≤ (bytesOf s1).length →
        (∀ i, ls ≤ i → i < le → (bytesOf s1)[i]? ≠ some NL) →
        ((bytesOf s1)[le]? = some NL ∨ le = (bytesOf s1).length) →
        (∃ y, (bytesOf s1)[x]? = some y ∧ isWs y = false) →
        ∀ d, ls ≤ d → d ≤ le → d < (bytesOf s1).length → inAny F d = true →
          ∃ r, BlockRangeOf (bytesOf s1) pos pos r ∧ Rng.contains r d = true) := by
  obtain ⟨rs, bs, F, hfc, ho, _, hsub, hsup⟩ := format_deleted s1 pos o hf
  have hblk := formatCollect_blocks _ pos pos rs bs hfc
  obtain ⟨hhull, rfl, _⟩ := formatCollect_eq _ _ _ _ _ hfc
  refine ⟨F, ho, fun r hr d hd => ?_, fun ls le x a1 a2 a3 a4 a5 a6 a7 d b1 b2 _ hFd => ?_⟩
  · exact hsup (hulls_sorted s1 pos hps hbs hhull) d
      (Or.inr ((inAny_iff _ _).mpr ⟨r, (hblk r).mpr hr, (Rng.contains_iff _ _).mp hd⟩))
  · rcases hsub d hFd with h | h <;> obtain ⟨r, hr, hrd⟩ := (inAny_iff _ _).mp h
    · -- a seam range cannot reach into a non-blank line
      obtain ⟨p, hp, rfl⟩ := List.mem_map.mp hr
      obtain ⟨lsp, hb⟩ := blockStyleK_iff.mp hbs p.1 (List.mem_map_of_mem hp)
      have := hull_avoids_line s1 hb (hhull p hp) ⟨a1, a2, a3, a4, a5, a6, a7⟩
      omega
    · exact ⟨r, (hblk r).mp hr, (Rng.contains_iff _ _).mpr hrd⟩

section
attribute [local irreducible] PosSorted  -- see `removedPos_sorted`

/-- C12 at document level: when all seams are block-style, the formatting pass deletes, from the text after removal,
    every range the block indent remover computes for a head seam and its tail seam, and on a non-blank line nothing
    else - each such range being `lineRange ls ip (tag column) (first line's indent - tag column)` for a line start
    `ls` of the block (`fmtBlockIndent_shape`) -/
theorem c12_document (src ds de : List Char) (cfg : Cfg) (out : List Char) (hde : de ≠ [])
    (hbs : BlockStyleK (minusRanges (bytesOf src) (extentsOfSource src ds de cfg))
      (positions (buildRemoveMarker cfg (bytesOf src) (parseSource src ds de)) 0))
    (h : clean src ds de cfg = .ok out) :
    let K := minusRanges (bytesOf src) (extentsOfSource src ds de cfg)
    let M := buildRemoveMarker cfg (bytesOf src) (parseSource src ds de)
    let pos := (positions M 0).zip (M.map (·.pair))
    ∃ F, bytesOf out = minusFrom K 0 F ∧
      (∀ r, BlockRangeOf K pos pos r → ∀ d, Rng.contains r d = true → inAny F d = true) ∧
      (∀ ls le x, IsLS K ls → ls ≤ x → x < le → le ≤ K.length →
        (∀ i, ls ≤ i → i < le → K[i]? ≠ some NL) → (K[le]? = some NL ∨ le = K.length) →
        (∃ y, K[x]? = some y ∧ isWs y = false) →
        ∀ d, ls ≤ d → d ≤ le → d < K.length → inAny F d = true →
          ∃ r, BlockRangeOf K pos pos r ∧ Rng.contains r d = true ∧
            ∃ p ∈ pos, ∃ cur ls' ip, firstLine K p.1 = some cur ∧ cur ≤ ls' ∧ findNextChar K ls' = some ip ∧
              r = lineRange ls' ip (tagColumn K p.1) (getIndentLen K cur - tagColumn K p.1)) := by
  obtain ⟨s1, hs1, hf⟩ := clean_ok src ds de cfg out hde h
  rw [← hs1] at hbs ⊢
  intro K M pos
  obtain ⟨F, e1, e2, e3⟩ := c12_deleted s1 pos (bytesOf out)
    (removedPos_sorted src ds de cfg hde)
    (by rw [map_fst_zip_positions]; exact hbs) hf
  refine ⟨F, e1, e2, fun ls le x a1 a2 a3 a4 a5 a6 a7 d b1 b2 b3 b4 => ?_⟩
  obtain ⟨r, hr, hrd⟩ := e3 ls le x a1 a2 a3 a4 a5 a6 a7 d b1 b2 b3 b4
  obtain ⟨p, hp, j, q, y, _, _, _, hmem⟩ := id hr
  obtain ⟨cur, ls', ip, c1, c2, _, c4, c5, _⟩ := fmtBlockIndent_shape K p.1 q r hmem
  exact ⟨r, hr, hrd, p, hp, cur, ls', ip, c1, c2, c4, c5⟩

end

theorem firstLine_pos (b : Bytes) (p cur : Nat) (h : firstLine b p = some cur) :
    0 < cur ∧ b[cur - 1]? = some (.lead '\n') := by
  obtain ⟨ofs, hf, rfl⟩ := Option.map_eq_some_iff.mp h
  obtain ⟨hlt, hx, _⟩ := List.findIdx?_eq_some_iff_getElem.mp hf
  refine ⟨Nat.succ_pos _, ?_⟩
  rw [Nat.add_sub_cancel, ← List.getElem?_drop, List.getElem?_eq_getElem hlt, beq_iff_eq.mp hx]

/-- `fmtBlockIndent_shape` with the end of the line: its line break lies before `endPos` -/
theorem fmtBlockIndent_shape_end (b : Bytes) (startPos endPos : Nat) :
    ∀ r ∈ fmtBlockIndent b startPos endPos,
      ∃ cur ls ip lb, firstLine b startPos = some cur ∧ cur ≤ ls ∧ 0 < ls ∧ b[ls - 1]? = some (.lead '\n') ∧
        findNextLB b ls false = some lb ∧ lb + 1 ≤ endPos ∧ findNextChar b ls = some ip ∧
        r = lineRange ls ip (tagColumn b startPos) (getIndentLen b cur - tagColumn b startPos) := by
  intro r hr
  rw [fmtBlockIndent_eq] at hr
  cases hf : firstLine b startPos with
  | none => rw [hf] at hr; cases hr
  | some cur =>
    rw [hf] at hr
    obtain ⟨ls, lb, ip, h1, h2, _, h3, h4, h5, h6, _⟩ := mem_blockLoop b endPos _ _ r _ cur hr
    obtain ⟨h0, hnl⟩ : 0 < ls ∧ b[ls - 1]? = some NL := h2.elim (fun e => e ▸ firstLine_pos b startPos cur hf) id
    exact ⟨cur, ls, ip, lb, rfl, h1, h0, hnl, h3, h4, h5, h6⟩

theorem lineRange_sub {ls ip t s d : Nat} (h : ls ≤ ip) (hd : Rng.contains (lineRange ls ip t s) d = true) :
    ls ≤ d ∧ d < ip := by
  have := (Rng.contains_iff _ _).mp hd
  exact ⟨Nat.le_trans (Nat.le_min.mpr ⟨Nat.le_add_right _ _, h⟩) this.1, Nat.lt_of_lt_of_le this.2 (Nat.min_le_right _ _)⟩

/-- a byte `d` of the line `[ls, le]` that stands among the leading blanks `[ls', ip)` of a line: the two lines are one -/
theorem same_line {K : Bytes} {ls le ls' lb ip d : Nat} (a1 : IsLS K ls)
    (a5 : ∀ i, ls ≤ i → i < le → K[i]? ≠ some NL) (a6 : K[le]? = some NL ∨ le = K.length)
    (f0 : K[ls' - 1]? = some NL) (f3 : findNextLB K ls' false = some lb) (f5 : findNextChar K ls' = some ip)
    (b1 : ls ≤ d) (b2 : d ≤ le) (b3 : d < K.length) (hd1 : ls' ≤ d) (hd2 : d < ip) : ls' = ls ∧ lb = le := by
  obtain ⟨_, g1, _, g3, g4, _⟩ := findNextLB_some _ _ _ _ f3
  have hnb : ∀ i, ls' ≤ i → i < ip → K[i]? ≠ some NL := fun i h1 h2 =>
    skip_not_nl ((findNextChar_some _ _ _ f5).2.2.2.2 i h1 h2)
  have hd3 : d < le := by
    have : ¬ d = le := by
      rintro rfl
      exact a6.elim (hnb d hd1 hd2) (by omega)
    omega
  cases isLS_unique (Or.inr f0) a1 (by omega : ls' ≤ d + 1) (by omega) (fun i h1 h2 => hnb i h1 (by omega))
    (fun i h1 h2 => a5 i h1 (by omega))
  have : ¬ lb < le := fun hlt => a5 lb g1 hlt g3
  have : ¬ le < lb := fun hgt => a6.elim (g4 le (by omega) hgt) (by omega)
  exact ⟨rfl, by omega⟩

/-- C12, one line at a time: on a non-blank line of the text after removal the formatting pass deletes exactly the
    union of the column intervals `lineRange ls ip (tag column) (first line's indent - tag column)` of the unwrapped
    blocks whose body contains the line -/
theorem c12_line_exact (src ds de : List Char) (cfg : Cfg) (out : List Char) (hde : de ≠ [])
    (hbs : BlockStyleK (minusRanges (bytesOf src) (extentsOfSource src ds de cfg))
      (positions (buildRemoveMarker cfg (bytesOf src) (parseSource src ds de)) 0))
    (h : clean src ds de cfg = .ok out) :
    let K := minusRanges (bytesOf src) (extentsOfSource src ds de cfg)
    let M := buildRemoveMarker cfg (bytesOf src) (parseSource src ds de)
    let pos := (positions M 0).zip (M.map (·.pair))
    ∃ F, bytesOf out = minusFrom K 0 F ∧
      ∀ ls le x, IsLS K ls → ls ≤ x → x < le → le ≤ K.length →
        (∀ i, ls ≤ i → i < le → K[i]? ≠ some NL) → (K[le]? = some NL ∨ le = K.length) →
        (∃ y, K[x]? = some y ∧ isWs y = false) →
        ∀ d, ls ≤ d → d ≤ le → d < K.length →
          (inAny F d = true ↔
            ∃ p ∈ pos, ∃ j q y cur ip, p.2 = some j ∧ pos[j]? = some (q, y) ∧ p.1 < q ∧
              firstLine K p.1 = some cur ∧ cur ≤ ls ∧ le + 1 ≤ q ∧ findNextChar K ls = some ip ∧
              Rng.contains (lineRange ls ip (tagColumn K p.1) (getIndentLen K cur - tagColumn K p.1)) d = true) := by
  intro K M pos
  obtain ⟨F, e1, e2, e3⟩ := c12_document src ds de cfg out hde hbs h
  refine ⟨F, e1, fun ls le x a1 a2 a3 a4 a5 a6 a7 d b1 b2 b3 => ⟨fun hd => ?_, ?_⟩⟩
  · obtain ⟨r, ⟨p, hp, j, q, y, c1, c2, c3, hmem⟩, hrd, _⟩ := e3 ls le x a1 a2 a3 a4 a5 a6 a7 d b1 b2 b3 hd
    obtain ⟨cur, ls', ip, lb, f1, f2, _, f0, f3, f4, f5, rfl⟩ := fmtBlockIndent_shape_end K p.1 q r hmem
    obtain ⟨hd1, hd2⟩ := lineRange_sub (findNextChar_some _ _ _ f5).2.1 hrd
    obtain ⟨rfl, rfl⟩ := same_line a1 a5 a6 f0 f3 f5 b1 b2 b3 hd1 hd2
    exact ⟨p, hp, j, q, y, cur, ip, c1, c2, c3, f1, f2, f4, f5, hrd⟩
  · rintro ⟨p, hp, j, q, y, cur, ip, c1, c2, c3, f1, f2, f4, f5, hrd⟩
    refine e2 _ ⟨p, hp, j, q, y, c1, c2, c3, ?_⟩ d hrd
    have hqle : q ≤ K.length := (hbs q (List.of_mem_zip (List.mem_of_getElem? c2)).1).2.1
    have hrd' := (Rng.contains_iff _ _).mp hrd
    have := lineRange_sub (findNextChar_some _ _ _ f5).2.1 hrd
    exact fmtBlockIndent_complete K p.1 q cur ls le ip f1 f2
      ((Nat.eq_or_lt_of_le f2).imp Eq.symm fun hlt => ⟨a1.resolve_left (by omega), hlt⟩) (by omega)
      (a6.resolve_right (by omega)) a5 f4 f5 (by omega)

/-! Non-vacuity: an unwrap-block on the second line, its body indented deeper than the tags. -/
def uwSrc : List Char :=
  "a\n  <rm name='a' unwrap-block>\n  if {\n      x\n        y\n  }\n  </rm>\nb".toList
def uwCfg : Cfg := ⟨"tl".toList, "rm".toList, 1577836800, 0, "+00:00".toList, ["a".toList]⟩
def uwK : Bytes := minusRanges (bytesOf uwSrc) (extentsOfSource uwSrc "<".toList ">".toList uwCfg)
def uwM : List Marker := buildRemoveMarker uwCfg (bytesOf uwSrc) (parseSource uwSrc "<".toList ">".toList)

/-- the removed ranges of the example, evaluated once -/
theorem uwM_eq : uwM = [⟨4, 37, some 1⟩, ⟨56, 67, some 0⟩] := by decide_lit uwM uwSrc uwCfg

theorem uwK_eq : uwK = bytesOf "a\n  \n      x\n        y\n\nb".toList :=
  (removeMarkers_source uwSrc _ _ uwCfg (by decide) _
    (ok_of_toOption (by rw [show buildRemoveMarker _ _ _ = uwM from rfl, uwM_eq]; decide_lit uwSrc))).symm

example : blockStyleB uwK (positions uwM 0) = true := by rw [uwK_eq, uwM_eq]; decide_lit
example : (clean uwSrc "<".toList ">".toList uwCfg).toOption = some "a\n  x\n    y\nb".toList := by
  simp only [clean]
  rw [show buildRemoveMarker _ _ _ = uwM from rfl, uwM_eq]
  decide_lit uwSrc
example : (positions uwM 0).zip (uwM.map (·.pair)) = [(4, some 1), (23, some 0)] := by rw [uwM_eq]; decide
example : fmtBlockIndent uwK 4 23 = [(7, 11), (15, 19)] := by rw [uwK_eq]; decide_lit

end Chiritori.Props.C12
