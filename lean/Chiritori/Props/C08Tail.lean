import Chiritori.Lemmas.DecideLit
import Chiritori.Lemmas.ScanTextbook
import Chiritori.Lemmas.ScanWide
/-
  C08 for pieces that fit the delimiters, up to the end of the document: `c08_wide_tail`, for any non-empty delimiters
  and every source that is a sequence of fitting pieces followed by a last stretch in which no further tag is found
  (`wideOK2`, `tailFit`): plain text, a partial match of the start delimiter left pending at the very end (`x <!--`),
  or an unterminated tag - start delimiter, some body, no end delimiter, possibly a partial match of the end delimiter
  (`<!-- <time-limited to='2024-01-01 00:00:00'> --`).  Both the tokenizer and the textbook scan take that stretch as
  text.  `c08_wide` (Props/C08Wide.lean) is the case of an empty last stretch.
-/
namespace Chiritori.Props.C08
open Chiritori Chiritori.Spec

theorem c08_wide_tail (d0 : Char) (dr : List Char) (e0 : Char) (er : List Char) (ps : List Piece) (t : List Char)
    (hw : wideOK2 (d0 :: dr) (e0 :: er) t ps [] = true) :
    c08Holds (renderAll (d0 :: dr) (e0 :: er) ps ++ t) (d0 :: dr) (e0 :: er)
      (tokenize (renderAll (d0 :: dr) (e0 :: er) ps ++ t) (d0 :: dr) (e0 :: er)) = true := by
  have h2 := textbook_wide_tail d0 dr e0 er t ps [] _ hw (Nat.le_refl _)
  unfold c08Holds textbook
  rw [beq_iff_eq]
  exact (tokenize_wide_tail d0 dr e0 er ps t hw).trans h2.symm

def mkTag (body : String) : Piece :=
  match body.toList with
  | [] => .text []
  | b0 :: rest => .tag b0 rest

/-- `mkTag` on a literal, without evaluating `String.toList` -/
theorem mkTag_ofList (b0 : Char) (rest : List Char) : mkTag (String.ofList (b0 :: rest)) = .tag b0 rest := by
  unfold mkTag; rw [String.toList_ofList]

/-- an HTML document with the default delimiters: the text holds `<`, `<!` and `<!--` -/
def htmlPs : List Piece :=
  [.text "<!DOCTYPE html>\n<div class=\"a\">\n  <!-- plain comment -->\n  ".toList,
   mkTag "time-limited to='2024/01/01 00:00:00'",
   .text "\n  <p>old < new</p>\n  ".toList,
   mkTag "/time-limited",
   .text "\n</div>\n".toList]

set_option maxRecDepth 16384 in
/-- `htmlPs`, cut off inside a tag, inside a start delimiter, inside an end delimiter -/
example : wideOK2 "<!-- <".toList "> -->".toList "<!-- <time-limited to='2024-01-01".toList htmlPs [] = true ∧
    wideOK2 "<!-- <".toList "> -->".toList "trailing <!--".toList htmlPs [] = true ∧
    wideOK2 "<!-- <".toList "> -->".toList "<!-- <".toList htmlPs [] = true ∧
    wideOK2 "<!-- <".toList "> -->".toList "<!-- <removal-marker name='a'> --".toList htmlPs [] = true ∧
    -- ... but a complete tag is not a last stretch
    wideOK2 "<!-- <".toList "> -->".toList "<!-- <x> -->".toList htmlPs [] = false := by
  unfold htmlPs
  repeat rw [mkTag_ofList]
  decide_lit

end Chiritori.Props.C08
