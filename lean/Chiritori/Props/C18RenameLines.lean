import Chiritori.Props.C18Rename
/-
  C18, listing, for a change of tag names (and delimiters): the two spellings of one document are listed with the same
  line ranges, item by item.
-/
namespace Chiritori.Props.C18
open Chiritori Chiritori.Spec

theorem nameOK_no_nl (n : List Char) (h : NameOK n) : n.count '\n' = 0 := by
  obtain ⟨c, cs, rfl, h1, h2⟩ := h
  rw [List.count_eq_zero]
  intro hm
  rcases List.mem_cons.mp hm with hc | hc
  · rw [← hc] at h1
    simp [nameStart, nameChar] at h1
  · have := h2 _ hc
    simp [nameChar] at this

theorem render_count_ren (ρ : List Char → List Char) (tg : TagS) (h1 : NameOK tg.name) (h2 : NameOK (ρ tg.name)) :
    (renTag ρ tg).render.count '\n' = tg.render.count '\n' := by
  simp only [TagS.render, renTag, List.count_append, nameOK_no_nl _ h1, nameOK_no_nl _ h2]

theorem sameNL_n (ds de ds' de' : List Char) (ρ : List Char → List Char) (N : List Char → Prop) (hρ : RenOK ρ N)
    (hnl : ∀ c ∈ ds ++ de, c ≠ '\n') (hnl' : ∀ c ∈ ds' ++ de', c ≠ '\n') (hde : de ≠ []) (hde' : de' ≠ [])
    (t u : Token) (h : TokN ds de ds' de' ρ N t u) : SameNL t u := by
  obtain ⟨_, h | ⟨_, tg, hok, hn, hv, hv', _, _⟩⟩ := h
  · unfold SameNL
    rw [h.2]
    exact ⟨rfl, rfl⟩
  · exact sameNL_wrap ds de ds' de' _ _ hnl hnl' hde hde' (render_count_ren ρ tg hok.1 (hρ.nameOK _ hn hok.1)).symm
      t u hv hv'

theorem chain_sameLines_n (ds de ds' de' : List Char) (ρ : List Char → List Char) (N : List Char → Prop) (hρ : RenOK ρ N)
    (hnl : ∀ c ∈ ds ++ de, c ≠ '\n') (hnl' : ∀ c ∈ ds' ++ de', c ≠ '\n') (hden : de ≠ []) (hden' : de' ≠ [])
    (T T' : List Token) (s off s' off' : Nat) (pre pre' post post' : Bytes)
    (hc : ChainFrom T s off) (hc' : ChainFrom T' s' off') (h : TokNs ds de ds' de' ρ N (fun _ _ => True) T T')
    (hp : pre.length = off) (hp' : pre'.length = off') (hcnt : pre.count NL = pre'.count NL) :
    PW (SameLines (pre ++ (bytesOf (flat T) ++ post)) (pre' ++ (bytesOf (flat T') ++ post'))) T T' :=
  chain_sameLines (((tokNs_iff ds de ds' de' ρ N _ T T').mp h).mono
    (fun t u h => sameNL_n ds de ds' de' ρ N hρ hnl hnl' hden hden' t u h.1)) s off s' off' pre pre' post post' hc hc' hp hp' hcnt

theorem regionsPart_lines_n (ds de ds' de' : List Char) (ρ : List Char → List Char) (N : List Char → Prop)
    (b b' : Bytes) (sel sel' : Element → Bool) (hsel : ∀ el, N el.name → sel' (renEl ρ el) = sel el) :
    ∀ (p q : Part), partN ds de ds' de' ρ N (SameLines b b') p q →
    (∀ e ∈ elementsOfPart p, hasAttr e.1 "unwrap-block" = false ∧ e.2.1.bstart < e.2.2.bstop) →
    (∀ e ∈ elementsOfPart q, hasAttr e.1 "unwrap-block" = false ∧ e.2.1.bstart < e.2.2.bstop) →
    (refRegionsPart sel b p).map (lineRangeOf b) = (refRegionsPart sel' b' q).map (lineRangeOf b') := by
  intro p q h h1 h2
  have := regions_lines_alike (fun _ _ h => h.2) (renamed_sel ρ N hsel)
    ((partsN_iff ds de ds' de' ρ N _ [p] [q]).mp ⟨h, trivial⟩)
    (fun e he => h1 e (by simpa only [elementsOf, List.append_nil] using he))
    (fun e he => h2 e (by simpa only [elementsOf, List.append_nil] using he))
  simpa only [refRegions, List.append_nil] using this

/-- C18, listing, for a change of tag names, in its general form (the tokens of either spelling are the normalised
    pieces - the conclusion of C08) -/
theorem list_lines_renamed_tn (d0 : Char) (dr : List Char) (e0 : Char) (er : List Char)
    (d0' : Char) (dr' : List Char) (e0' : Char) (er' : List Char)
    (ρ : List Char → List Char) (N : List Char → Prop) (hρ : RenOK ρ N)
    (hnl : ∀ c ∈ (d0 :: dr) ++ (e0 :: er), c ≠ '\n') (hnl' : ∀ c ∈ (d0' :: dr') ++ (e0' :: er'), c ≠ '\n')
    (ps ps' : List Piece) (hren : PiecesRen ρ N ps ps')
    (hstrip : ∀ p ∈ ps, p.strip (d0 :: dr) (e0 :: er)) (hstrip' : ∀ p ∈ ps', p.strip (d0' :: dr') (e0' :: er'))
    (htn : (tokenize (renderAll (d0 :: dr) (e0 :: er) ps) (d0 :: dr) (e0 :: er)).map (fun t => (t.kind, t.value))
      = tnorm (d0 :: dr) (e0 :: er) [] ps [])
    (htn' : (tokenize (renderAll (d0' :: dr') (e0' :: er') ps') (d0' :: dr') (e0' :: er')).map (fun t => (t.kind, t.value))
      = tnorm (d0' :: dr') (e0' :: er') [] ps' [])
    (cfg : Cfg) (htl : N cfg.tlName) (hrm : N cfg.rmName)
    (hnu : NoUnwrapAttr (parseSource (renderAll (d0 :: dr) (e0 :: er) ps) (d0 :: dr) (e0 :: er))) :
    (listMarkers (renderAll (d0 :: dr) (e0 :: er) ps) (d0 :: dr) (e0 :: er) cfg).map
        (fun x => lineRangeOf (bytesOf (renderAll (d0 :: dr) (e0 :: er) ps)) (x.1.start, x.1.stop)) =
    (listMarkers (renderAll (d0' :: dr') (e0' :: er') ps') (d0' :: dr') (e0' :: er')
        { cfg with tlName := ρ cfg.tlName, rmName := ρ cfg.rmName }).map
        (fun x => lineRangeOf (bytesOf (renderAll (d0' :: dr') (e0' :: er') ps')) (x.1.start, x.1.stop)) :=
  list_lines_sim (by simp) (by simp)
    (spelling_n _ _ _ _ ρ N (fun _ _ => True) hρ (by simp) (by simp) (by simp) (by simp))
    (fun t u h => sameNL_n _ _ _ _ ρ N hρ hnl hnl' (by simp) (by simp) t u h.1)
    (renamed_sel ρ N (fun el hn => cond_ren ρ N hρ cfg htl hrm el hn)) (fun _ _ he h => by rw [he.1]; exact h) _ _
    (tokNR_of_tnorm _ _ _ _ ρ N ps ps' [] _ _ hren hstrip hstrip' htn htn') hnu

/-- C18, listing, for a change of tag names: the two spellings of one document (grammar tags, no `unwrap-block`,
    delimiters without line breaks) are listed with the same line ranges, item by item -/
theorem list_lines_renamed (d0 : Char) (dr : List Char) (e0 : Char) (er : List Char)
    (d0' : Char) (dr' : List Char) (e0' : Char) (er' : List Char)
    (ρ : List Char → List Char) (N : List Char → Prop) (hρ : RenOK ρ N)
    (hnl : ∀ c ∈ (d0 :: dr) ++ (e0 :: er), c ≠ '\n') (hnl' : ∀ c ∈ (d0' :: dr') ++ (e0' :: er'), c ≠ '\n')
    (ps ps' : List Piece) (hren : PiecesRen ρ N ps ps')
    (hfree : ∀ p ∈ ps, p.fits d0 e0 (d0 :: dr) (e0 :: er)) (hfree' : ∀ p ∈ ps', p.fits d0' e0' (d0' :: dr') (e0' :: er'))
    (cfg : Cfg) (htl : N cfg.tlName) (hrm : N cfg.rmName)
    (hnu : NoUnwrapAttr (parseSource (renderAll (d0 :: dr) (e0 :: er) ps) (d0 :: dr) (e0 :: er))) :
    (listMarkers (renderAll (d0 :: dr) (e0 :: er) ps) (d0 :: dr) (e0 :: er) cfg).map
        (fun x => lineRangeOf (bytesOf (renderAll (d0 :: dr) (e0 :: er) ps)) (x.1.start, x.1.stop)) =
    (listMarkers (renderAll (d0' :: dr') (e0' :: er') ps') (d0' :: dr') (e0' :: er')
        { cfg with tlName := ρ cfg.tlName, rmName := ρ cfg.rmName }).map
        (fun x => lineRangeOf (bytesOf (renderAll (d0' :: dr') (e0' :: er') ps')) (x.1.start, x.1.stop)) :=
  list_lines_renamed_tn d0 dr e0 er d0' dr' e0' er' ρ N hρ hnl hnl' ps ps' hren
    (fun p hp => Piece.strip_of_fits _ _ _ _ p (hfree p hp)) (fun p hp => Piece.strip_of_fits _ _ _ _ p (hfree' p hp))
    (tokens_tnorm d0 dr e0 er ps (fun p hp => Piece.ok_of_fits _ _ _ _ p (hfree p hp)))
    (tokens_tnorm d0' dr' e0' er' ps' (fun p hp => Piece.ok_of_fits _ _ _ _ p (hfree' p hp)))
    cfg htl hrm hnu

end Chiritori.Props.C18
