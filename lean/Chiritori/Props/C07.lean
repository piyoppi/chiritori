import Chiritori.Lemmas.DecideLit
import Chiritori.Lemmas.Tokenizer
import Chiritori.Spec.Holds
/-
  C07 — Tokenization is a lossless partition with consistent offsets.

  `Statement` is the full property; `c07` proves it for every source and every pair of non-empty
  delimiters (no bound on the length of the source).
-/
namespace Chiritori.Props.C07
open Chiritori Chiritori.Spec

theorem contiguous_of_chain (ts : List Token) (s bs : Nat) (h : ChainFrom ts s bs) : contiguous ts = true := by
  induction ts generalizing s bs with
  | nil => rfl
  | cons a rest ih =>
    cases rest with
    | nil => rfl
    | cons b rest' =>
      simp only [ChainFrom] at h
      obtain ⟨_, _, _, _, _, hb1, hb2, hrest⟩ := h
      simp only [contiguous, Bool.and_eq_true, beq_iff_eq]
      refine ⟨⟨hb1.symm, hb2.symm⟩, ?_⟩
      exact ih a.stop a.bstop (by simp only [ChainFrom]; exact ⟨hb1, hb2, hrest⟩)

theorem noAdjacentText_of (ts : List Token) (h : NoAdjText ts) : noAdjacentText ts = true := by
  induction ts with
  | nil => rfl
  | cons a rest ih =>
    cases rest with
    | nil => rfl
    | cons b rest' =>
      simp only [NoAdjText] at h
      simp only [noAdjacentText, Bool.and_eq_true, Bool.not_eq_true', Bool.and_eq_false_iff, beq_eq_false_iff_ne]
      refine ⟨?_, ih h.2⟩
      by_cases ha : a.kind = .text
      · right; intro hb; exact h.1 ⟨ha, hb⟩
      · left; exact ha

theorem chain_at (pre post : List Token) (t : Token) (h : ChainFrom (pre ++ t :: post) 0 0) :
    t.start = (flat pre).length ∧ t.bstart = blen (flat pre) ∧ t.value ≠ [] ∧
    t.stop = (flat pre).length + t.value.length ∧ t.bstop = blen (flat pre) + blen t.value := by
  rw [chainFrom_append] at h
  obtain ⟨_, h2⟩ := h
  simp only [ChainFrom, Nat.zero_add] at h2
  exact ⟨h2.1, h2.2.1, h2.2.2.1, h2.2.2.2.1, h2.2.2.2.2.1⟩

theorem tokenOk_of (src ds de : List Char) (pre post : List Token) (t : Token)
    (hc : ChainFrom (pre ++ t :: post) 0 0) (hf : flat (pre ++ t :: post) = src)
    (hk : t.kind = .element → DelimOK ds de t.value) : tokenOk src ds de t = true := by
  obtain ⟨h1, h2, h3, h4, h5⟩ := chain_at pre post t hc
  have hsrc : src = flat pre ++ (t.value ++ flat post) := by rw [← hf]; simp
  have hb1 : isBoundary (bytesOf src) (blen (flat pre)) = true := by
    rw [hsrc]; exact isBoundary_blen_prefix _ _
  have hb2 : isBoundary (bytesOf src) (blen (flat pre) + blen t.value) = true := by
    rw [← blen_append, hsrc, ← List.append_assoc]; exact isBoundary_blen_prefix _ _
  have hkind : (t.kind == TKind.text || (ds.isPrefixOf t.value && de.isSuffixOf t.value)) = true := by
    cases hkk : t.kind with
    | text => rfl
    | element =>
      obtain ⟨body, _, hv⟩ := hk hkk
      have hp : ds <+: t.value := ⟨body ++ de, by rw [hv, List.append_assoc]⟩
      have hs : de <:+ t.value := ⟨ds ++ body, hv.symm⟩
      simp [List.isPrefixOf_iff_prefix.mpr hp, List.isSuffixOf_iff_suffix.mpr hs]
  unfold tokenOk
  rw [h1, h2, h4, h5, hb1, hb2, hkind]
  simp [h3]

def Statement : Prop :=
  ∀ (src ds de : List Char), ds ≠ [] → de ≠ [] → c07Holds src ds de (tokenize src ds de) = true

theorem chain_ends (ts : List Token) (h : ChainFrom ts 0 0) (t0 l : Token) (h0 : ts.head? = some t0)
    (hl : ts.getLast? = some l) :
    t0.start = 0 ∧ t0.bstart = 0 ∧ l.stop = (flat ts).length ∧ l.bstop = blen (flat ts) := by
  obtain ⟨rest, rfl⟩ := List.head?_eq_some_iff.mp h0
  refine ⟨h.1, h.2.1, ?_⟩
  obtain ⟨ini, hini⟩ := List.getLast?_eq_some_iff.mp hl
  rw [hini] at h ⊢
  obtain ⟨_, _, _, h4, h5⟩ := chain_at ini [] l h
  rw [h4, h5]
  simp [blen_append]

theorem holds_of_ok (src ds de : List Char) (ts : List Token) (h : TokensOK ds de src ts) (hn : NoAdjText ts) :
    c07Holds src ds de ts = true := by
  have hall : ts.all (tokenOk src ds de) = true := List.all_eq_true.mpr fun t ht => by
    obtain ⟨pre, post, rfl⟩ := List.append_of_mem ht
    exact tokenOk_of src ds de pre post t h.chain h.flatEq (h.kinds t ht)
  have hfe : (ts.flatMap (·.value) == src) = true := beq_iff_eq.mpr h.flatEq
  unfold c07Holds
  rw [contiguous_of_chain ts 0 0 h.chain, noAdjacentText_of ts hn, hall, hfe]
  cases h0 : ts.head? with
  | none =>
    obtain rfl := List.head?_eq_none_iff.mp h0
    rw [← h.flatEq]
    rfl
  | some t0 =>
    cases hl : ts.getLast? with
    | none => rw [List.getLast?_eq_none_iff.mp hl] at h0; cases h0
    | some l =>
      obtain ⟨a, b, c, d⟩ := chain_ends ts h.chain t0 l h0 hl
      rw [h.flatEq] at c d
      simp [a, b, c, d]

theorem c07 : Statement := by
  intro src ds de _ hde
  obtain ⟨hok, hn⟩ := tokenize_ok src ds de hde
  exact holds_of_ok src ds de _ hok hn

theorem tag_tokens_delimited (src ds de : List Char) (hde : de ≠ []) :
    ∀ t ∈ tokenize src ds de, t.kind = .element → ∃ body, body ≠ [] ∧ t.value = ds ++ body ++ de :=
  (tokenize_ok src ds de hde).1.kinds

/-! Non-vacuity and sanity: a concrete multi-token source (with a final multi-byte character). -/
example : (tokenize "a<b>cあ".toList "<".toList ">".toList).length = 3 := by decide_lit
example : c07Holds "a<b>cあ".toList "<".toList ">".toList (tokenize "a<b>cあ".toList "<".toList ">".toList) = true := by
  decide_lit
/-- the predicate is not trivially true: with `byte_end = 6` for the last token (one past the first byte of its last
    character: D1) it is false -/
example : c07Holds "a<b>cあ".toList "<".toList ">".toList
    [⟨.text, ['a'], 0, 0, 1, 1⟩, ⟨.element, "<b>".toList, 1, 1, 4, 4⟩, ⟨.text, "cあ".toList, 4, 4, 6, 6⟩] = false := by
  decide_lit

end Chiritori.Props.C07
