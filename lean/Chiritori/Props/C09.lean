import Chiritori.Lemmas.DecideLit
import Chiritori.Lemmas.Grammar
import Chiritori.Model.Remover
/-
  C09 — Tag grammar: name and attributes round-trip; quoted values are opaque.

  `Spec.TagS` (Spec/Tag.lean) is the grammar: optional spaces, a name, then attributes each preceded by a
  non-empty separator of spaces / line breaks, an attribute being a bare word or `name [spaces] = [spaces] q value q`
  with q one of the two quote characters and the value free of q only; optional trailing separators.
  `c09`: every such tag parses to exactly its name and, in order, its attribute names and values - for any number
  of attributes and any values (spaces, `=`, the other quote, line breaks, keywords, the start delimiter).
  `opaque_names`, `skip_iff`: changing quoted values changes neither the name nor the attribute names, hence no
  decision that looks at names only (`skip`, `unwrap-block`).
-/
namespace Chiritori.Props.C09
open Chiritori Chiritori.Spec

def Statement : Prop := ∀ t : TagS, t.ok → parseBody t.render = some t.expected

theorem c09 : Statement := parseBody_render

theorem trimStartMatchesAux_done (pat s : List Char) (fuel : Nat) (h : pat.isPrefixOf s = false) :
    trimStartMatchesAux pat fuel s = s := by
  cases fuel <;> simp [trimStartMatchesAux, h]

theorem trimStartMatchesAux_strip (pat s : List Char) (fuel : Nat) (hp : pat ≠ []) :
    trimStartMatchesAux pat (fuel + 1) (pat ++ s) = trimStartMatchesAux pat fuel s := by
  simp [trimStartMatchesAux, hp]

theorem trimStartMatches_once (ds body : List Char) (hds : ds ≠ [])
    (hnp : ds.isPrefixOf body = false) : trimStartMatches (ds ++ body) ds = body := by
  obtain ⟨c, cs, rfl⟩ := List.exists_cons_of_ne_nil hds
  exact (trimStartMatchesAux_strip (c :: cs) body _ hds).trans (trimStartMatchesAux_done _ _ _ hnp)

theorem elparse_of_body (ds de body : List Char) (t : Token) (hds : ds ≠ []) (hde : de ≠ []) (hb : body ≠ [])
    (hk : t.kind = .element) (hv : t.value = ds ++ body ++ de)
    (h1 : ds.isPrefixOf (body ++ de) = false) (h2 : de.reverse.isPrefixOf body.reverse = false) :
    elparse ds de t = parseBody body := by
  unfold elparse trimEndMatches
  rw [hk, hv, List.append_assoc, trimStartMatches_once ds (body ++ de) hds h1, List.reverse_append,
    trimStartMatches_once de.reverse body.reverse (by simpa using hde) h2, List.reverse_reverse]

/-- attributes that differ at most in the quoted value -/
def sameShape : AttrS → AttrS → Prop
  | .bare n, .bare n' => n = n'
  | .quoted n _ _ _ _, .quoted n' _ _ _ _ => n = n'
  | _, _ => False

inductive SameShapes : List (List Char × AttrS) → List (List Char × AttrS) → Prop
  | nil : SameShapes [] []
  | cons {a a' : List Char × AttrS} {as as' : List (List Char × AttrS)} :
      sameShape a.2 a'.2 → SameShapes as as' → SameShapes (a :: as) (a' :: as')

theorem sameShape_name : ∀ {a a' : AttrS}, sameShape a a' → a.parsed.1 = a'.parsed.1
  | .bare _, .bare _, h => h
  | .quoted .., .quoted .., h => h
  | .bare _, .quoted .., h => h.elim
  | .quoted .., .bare _, h => h.elim

theorem SameShapes.names {l l' : List (List Char × AttrS)} (h : SameShapes l l') :
    l.map (fun sa => sa.2.parsed.1) = l'.map (fun sa => sa.2.parsed.1) := by
  induction h with
  | nil => rfl
  | cons h _ ih => rw [List.map_cons, List.map_cons, sameShape_name h, ih]

theorem opaque_names (t t' : TagS) (ht : t.ok) (ht' : t'.ok) (hname : t.name = t'.name)
    (hattrs : SameShapes t.attrs t'.attrs) :
    ∃ e e', parseBody t.render = some e ∧ parseBody t'.render = some e' ∧ e.name = e'.name ∧
      e.attrs.map (·.name) = e'.attrs.map (·.name) := by
  refine ⟨t.expected, t'.expected, c09 t ht, c09 t' ht', hname, ?_⟩
  simp only [TagS.expected, List.map_map]
  exact hattrs.names

/-- a word inside a quoted value never becomes an attribute: the element is skipped iff some attribute of the
    grammar tag is *named* `skip` -/
theorem skip_iff (t : TagS) (ht : t.ok) :
    ∃ e, parseBody t.render = some e ∧
      (isSkip e = true ↔ ∃ sa ∈ t.attrs, sa.2.parsed.1 = "skip".toList) := by
  refine ⟨t.expected, c09 t ht, ?_⟩
  simp only [isSkip, TagS.expected, List.any_map, List.any_eq_true, Function.comp_def, beq_iff_eq]

/-! Kernel-evaluated instances: the README continuation style and the D5 witness. -/
example : parseBody "rm name='a'\nskip".toList = some ⟨"rm".toList, [⟨"name".toList, some "a".toList⟩, ⟨"skip".toList, none⟩]⟩ := by
  decide_lit
example : parseBody "tl to=\"2024-01-01 00:00:00\" c = 'skip unwrap-block = \"x\"'".toList
    = some ⟨"tl".toList, [⟨"to".toList, some "2024-01-01 00:00:00".toList⟩,
        ⟨"c".toList, some "skip unwrap-block = \"x\"".toList⟩]⟩ := by decide_lit

end Chiritori.Props.C09
