import Chiritori.Props.C13Doc
/-
  C13 (b) at document level: how many line breaks of a block of blank lines survive.

  The hulls of block-style seams are sorted by start (`hulls_sorted`, Props/C13Doc.lean), so `merge_overlapped_ranges`
  loses none of their points (`format_deleted`); a hull is a whitespace run around its seam, so it stays inside the block
  of blank lines its seam stands in (`format_isolated`), and the line breaks in it are known (`hull_breaks`).
-/
namespace Chiritori.Props.C13
open Chiritori Chiritori.Spec

def nlCount (l : Bytes) : Nat := l.countP (· == NL)

theorem nlCount_minusFrom (F : List Rng) : ∀ (g : Bytes) (off : Nat),
    nlCount (minusFrom g off F) + (g.zipIdx off).countP (fun x => inAny F x.2 && x.1 == NL) = nlCount g
  | [], _ => rfl
  | x :: xs, off => by
    have ih := nlCount_minusFrom F xs (off + 1)
    rw [minusFrom_cons, List.zipIdx_cons, List.countP_cons]
    unfold nlCount at ih ⊢
    rw [List.countP_cons]
    cases hF : inAny F off with
    | true =>
      simp only [ite_true, Bool.true_and]
      cases hx : (x == NL) <;> simp only [Bool.false_eq_true, ite_false, ite_true] <;> omega
    | false =>
      simp only [Bool.false_eq_true, ite_false, Bool.false_and, List.countP_cons]
      cases hx : (x == NL) <;> simp only [Bool.false_eq_true, ite_false, ite_true] <;> omega

theorem countP_index (q : ABy × Nat → Bool) : ∀ (g : Bytes) (off : Nat) (as : List Nat), as.Pairwise (· < ·) →
    (∀ a ∈ as, off ≤ a ∧ a < off + g.length) → (∀ x ∈ g.zipIdx off, q x = true ↔ x.2 ∈ as) →
    (g.zipIdx off).countP q = as.length
  | [], off, as, _, hr, _ => by
    cases as with
    | nil => rfl
    | cons a _ => have := hr a (by simp); simp at this; omega
  | y :: ys, off, as, hp, hr, hq => by
    have htail : ∀ x ∈ ys.zipIdx (off + 1), q x = true ↔ x.2 ∈ as := fun x hx => hq x (by simp [hx])
    rw [List.zipIdx_cons, List.countP_cons]
    by_cases h0 : off ∈ as
    · -- `off` is the first index listed
      obtain ⟨a, as', rfl⟩ := List.exists_cons_of_ne_nil (List.ne_nil_of_mem h0)
      obtain ⟨hlt, hp'⟩ := List.pairwise_cons.mp hp
      have ha : a = off := by
        rcases List.mem_cons.mp h0 with h | h
        · exact h.symm
        · have := hlt off h; have := hr a (by simp); omega
      subst ha
      rw [(hq (y, a) (by simp)).mpr (by simp), countP_index q ys (a + 1) as' hp'
        (fun c hc => by have := hlt c hc; have := hr c (by simp [hc]); simp at this; omega)
        (fun x hx => by
          rw [htail x hx, List.mem_cons]
          have := List.le_snd_of_mem_zipIdx hx
          exact ⟨fun h => h.resolve_left (by omega), Or.inr⟩)]
      simp
    · rw [Bool.eq_false_iff.mpr fun h => h0 ((hq (y, off) (by simp)).mp h), countP_index q ys (off + 1) as hp
        (fun c hc => by have := hr c hc; simp at this; have : c ≠ off := fun e => h0 (e ▸ hc); omega) htail]
      simp

/-- the setting of clause (b): a block-style seam `p` inside a stretch of whitespace `(xb, xa)` bounded by two
    non-whitespace bytes, with no other seam in it -/
structure Isolated (K : Bytes) (pos : List Nat) (p xb xa : Nat) : Prop where
  lt1 : xb < p
  lt2 : p < xa
  left : ∃ y, K[xb]? = some y ∧ isWs y = false
  right : ∃ y, K[xa]? = some y ∧ isWs y = false
  ws : ∀ i, xb < i → i < xa → ∃ y, K[i]? = some y ∧ isWs y = true
  alone : ∀ q ∈ pos, q ≤ xb ∨ q = p ∨ xa < q

/-- what `format` deletes between `xb` and `xa` is exactly the hull of the seam `p` -/
theorem format_isolated (s1 : List Char) (pos : List (Nat × Option Nat)) (o : Bytes)
    (hnp : ∀ p ∈ pos, p.2 = none) (hbs : BlockStyleK (bytesOf s1) (pos.map (·.1))) (hsort : PosSorted pos)
    (hf : format (bytesOf s1) pos = .ok o) (p xb xa : Nat) (hp : p ∈ pos.map (·.1))
    (hiso : Isolated (bytesOf s1) (pos.map (·.1)) p xb xa) :
    ∃ F S E, o = minusFrom (bytesOf s1) 0 F ∧
      formatBlock (bytesOf s1) p seamFormatters (p, p) = .ok (S, E) ∧ xb < S ∧ E ≤ xa ∧
      ∀ d, xb < d → d < xa → (inAny F d = true ↔ (S ≤ d ∧ d < E)) := by
  obtain ⟨rs, bs, F, hfc, ho, _, hsub, hsup⟩ := format_deleted s1 pos o hf
  cases formatCollect_noblocks _ pos pos rs bs hnp hfc
  obtain ⟨hhull, rfl, _⟩ := formatCollect_eq _ _ _ _ _ hfc
  obtain ⟨pp, hpp, rfl⟩ := List.mem_map.mp hp
  -- a hull holds whitespace only: it contains neither `xb` nor `xa`
  have hg := fun q hq => (formatBlock_good s1 _ _ (hhull q hq)).2
  have hout : ∀ q ∈ pos, ∀ z, z = xb ∨ z = xa →
      ¬ ((seamHull (bytesOf s1) q.1).1 ≤ z ∧ z < (seamHull (bytesOf s1) q.1).2) := fun q hq z hz hin =>
    nonws_not_wsByte (by rcases hz with rfl | rfl; exact hiso.left; exact hiso.right) ((hg q hq).ws z hin.1 hin.2)
  have hgp := hg pp hpp
  have h1 := hiso.lt1
  have h2 := hiso.lt2
  refine ⟨F, (seamHull (bytesOf s1) pp.1).1, (seamHull (bytesOf s1) pp.1).2, ho, hhull pp hpp, ?_, ?_,
    fun d hd1 hd2 => ⟨fun hF => ?_, fun hd => ?_⟩⟩
  · have := hout pp hpp xb (Or.inl rfl); have := hgp.le2; omega
  · have := hout pp hpp xa (Or.inr rfl); have := hgp.le1; omega
  · obtain ⟨r, hr, hrd⟩ := (inAny_iff _ _).mp ((hsub d hF).resolve_right (by simp [inAny]))
    obtain ⟨q, hq, rfl⟩ := List.mem_map.mp hr
    have := (hg q hq).le1
    have := (hg q hq).le2
    -- a seam at or left of `xb` would have `xb` in its hull, one at or right of `xa` would have `xa`
    rcases hiso.alone q.1 (List.mem_map_of_mem hq) with hq1 | hq1 | hq1
    · have := hout q hq xb (Or.inl rfl); omega
    · rw [← hq1]; exact hrd
    · have := hout q hq xa (Or.inr rfl); omega
  · exact hsup (hulls_sorted s1 pos hsort hbs hhull) d
      (Or.inl ((inAny_iff _ _).mpr ⟨_, List.mem_map_of_mem hpp, hd⟩))

def between (K : Bytes) (xb xa : Nat) : Bytes := (K.take xa).drop (xb + 1)

theorem between_zip (K : Bytes) (xb xa : Nat) (x : ABy × Nat)
    (hx : x ∈ (between K xb xa).zipIdx (xb + 1)) : xb < x.2 ∧ x.2 < xa ∧ K[x.2]? = some x.1 := by
  obtain ⟨h1, h2⟩ := List.mem_zipIdx_iff_le_and_getElem?_sub.mp hx
  rw [between, List.getElem?_drop, List.getElem?_take, Nat.add_sub_cancel' h1] at h2
  split at h2
  · exact ⟨h1, ‹_›, h2⟩
  · cases h2

/-- C13 (b) for the formatting pass: in an isolated block of blank lines the deletion takes out exactly one line
    break, two when there is a blank line on both sides of the residue line -/
theorem format_gap_count (s1 : List Char) (pos : List (Nat × Option Nat)) (o : Bytes)
    (hnp : ∀ p ∈ pos, p.2 = none) (hbs : BlockStyleK (bytesOf s1) (pos.map (·.1))) (hsort : PosSorted pos)
    (hf : format (bytesOf s1) pos = .ok o) (p ls xb xa : Nat) (hp : p ∈ pos.map (·.1))
    (hseam : BlockSeam (bytesOf s1) ls p) (hiso : Isolated (bytesOf s1) (pos.map (·.1)) p xb xa) :
    ∃ F, o = minusFrom (bytesOf s1) 0 F ∧
      (∀ q q', PrevText (bytesOf s1) ls q → NextText (bytesOf s1) p q' →
        nlCount (minusFrom (between (bytesOf s1) xb xa) (xb + 1) F) + 1 = nlCount (between (bytesOf s1) xb xa)) ∧
      (∀ ls' q', PrevBlank (bytesOf s1) ls ls' → NextText (bytesOf s1) p q' →
        nlCount (minusFrom (between (bytesOf s1) xb xa) (xb + 1) F) + 1 = nlCount (between (bytesOf s1) xb xa)) ∧
      (∀ q e, PrevText (bytesOf s1) ls q → NextBlank (bytesOf s1) p e →
        nlCount (minusFrom (between (bytesOf s1) xb xa) (xb + 1) F) + 1 = nlCount (between (bytesOf s1) xb xa)) ∧
      (∀ ls' e, PrevBlank (bytesOf s1) ls ls' → NextBlank (bytesOf s1) p e →
        nlCount (minusFrom (between (bytesOf s1) xb xa) (xb + 1) F) + 2 = nlCount (between (bytesOf s1) xb xa)) := by
  obtain ⟨F, S, E, ho, hfb, hS, hE, hin⟩ := format_isolated s1 pos o hnp hbs hsort hf p xb xa hp hiso
  have hnl := hull_breaks hseam hfb
  obtain ⟨e1, e2, e3, e4⟩ := seam_exact hseam
  have h2 := hseam.two
  have hle := hseam.le
  have hxa : xa ≤ (bytesOf s1).length := by
    obtain ⟨y, hy, _⟩ := hiso.right
    exact Nat.le_of_lt (lt_of_getElem?_some _ _ _ hy)
  -- the deleted line breaks of the stretch: those of `ls - 1` and `p` that the hull reaches
  have hcount : ∀ as : List Nat, as.Pairwise (· < ·) → (∀ d, d ∈ as ↔ (S ≤ d ∧ d < E ∧ (d = ls - 1 ∨ d = p))) →
      nlCount (minusFrom (between (bytesOf s1) xb xa) (xb + 1) F) + as.length = nlCount (between (bytesOf s1) xb xa) := by
    intro as hp has
    rw [← nlCount_minusFrom F (between (bytesOf s1) xb xa) (xb + 1), countP_index _ _ _ as hp]
    · intro a ha
      have := (has a).mp ha
      simp only [between, List.length_drop, List.length_take]
      omega
    · intro x hx
      obtain ⟨g1, g2, g3⟩ := between_zip _ xb xa x hx
      rw [has, Bool.and_eq_true, hin x.2 g1 g2, beq_iff_eq]
      refine ⟨fun ⟨⟨a1, a2⟩, a3⟩ => ⟨a1, a2, (hnl x.2 a1 a2).mp (by rw [g3, a3])⟩, fun ⟨a1, a2, a3⟩ => ⟨⟨a1, a2⟩, ?_⟩⟩
      have := (hnl x.2 a1 a2).mpr a3
      rw [g3] at this
      exact Option.some.inj this
  refine ⟨F, ho, fun q q' hpt hnt => ?_, fun ls' q' hpb hnt => ?_, fun q e hpt hnb => ?_, fun ls' e hpb hnb => ?_⟩
  · cases (e1 q q' hpt hnt).symm.trans hfb
    exact hcount [p] (by simp) fun d => by rw [List.mem_singleton]; omega
  · cases (e2 ls' q' hpb hnt).symm.trans hfb
    have := hpb.lt
    exact hcount [ls - 1] (by simp) fun d => by rw [List.mem_singleton]; omega
  · cases (e3 q e hpt hnb).symm.trans hfb
    have := hnb.le
    exact hcount [p] (by simp) fun d => by rw [List.mem_singleton]; omega
  · cases (e4 ls' e hpb hnb).symm.trans hfb
    have := hpb.lt
    have := hnb.le
    exact hcount [ls - 1, p] (by simp; omega) fun d => by
      simp only [List.mem_cons, List.not_mem_nil, or_false]; omega

section
attribute [local irreducible] PosSorted  -- see `removedPos_sorted`

/-- C13 (b) at document level: when all removals are block-style, nothing is unwrapped, and a removed block stands
    alone between a non-whitespace byte before it and one behind it, the blank lines around it lose exactly one
    line break - two when there is a blank line on both sides -/
theorem c13_blank_count (src ds de : List Char) (cfg : Cfg) (out : List Char) (hde : de ≠ [])
    (hnu : NoReadyUnwrap cfg (parseSource src ds de))
    (hbs : BlockStyleK (minusRanges (bytesOf src) (extentsOfSource src ds de cfg))
      (positions (buildRemoveMarker cfg (bytesOf src) (parseSource src ds de)) 0))
    (h : clean src ds de cfg = .ok out) (p ls xb xa : Nat)
    (hp : p ∈ positions (buildRemoveMarker cfg (bytesOf src) (parseSource src ds de)) 0)
    (hseam : BlockSeam (minusRanges (bytesOf src) (extentsOfSource src ds de cfg)) ls p)
    (hiso : Isolated (minusRanges (bytesOf src) (extentsOfSource src ds de cfg))
      (positions (buildRemoveMarker cfg (bytesOf src) (parseSource src ds de)) 0) p xb xa) :
    let K := minusRanges (bytesOf src) (extentsOfSource src ds de cfg)
    ∃ F, bytesOf out = minusFrom K 0 F ∧
      (∀ q q', PrevText K ls q → NextText K p q' →
        nlCount (minusFrom (between K xb xa) (xb + 1) F) + 1 = nlCount (between K xb xa)) ∧
      (∀ ls' q', PrevBlank K ls ls' → NextText K p q' →
        nlCount (minusFrom (between K xb xa) (xb + 1) F) + 1 = nlCount (between K xb xa)) ∧
      (∀ q e, PrevText K ls q → NextBlank K p e →
        nlCount (minusFrom (between K xb xa) (xb + 1) F) + 1 = nlCount (between K xb xa)) ∧
      (∀ ls' e, PrevBlank K ls ls' → NextBlank K p e →
        nlCount (minusFrom (between K xb xa) (xb + 1) F) + 2 = nlCount (between K xb xa)) := by
  intro K
  obtain ⟨s1, hs1, hf⟩ := clean_ok src ds de cfg out hde h
  rw [show K = bytesOf s1 from hs1.symm]
  rw [← hs1] at hbs hseam hiso
  have hfst := map_fst_zip_positions (buildRemoveMarker cfg (bytesOf src) (parseSource src ds de)) 0
  exact format_gap_count s1 _ _ (pairs_none src ds de cfg hnu) (by rw [hfst]; exact hbs)
    (removedPos_sorted src ds de cfg hde) hf p ls xb xa
    (by rw [hfst]; exact hp) hseam (by rw [hfst]; exact hiso)

end

/-- the premises are satisfiable: the residue line `"  "` at 5..7 of `"foo\n\n  \n\nbar\n"` stands alone between
    `o` (index 2) and `b` (index 9) -/
example : Isolated (bytesOf "foo\n\n  \n\nbar\n".toList) [7] 7 2 9 := by
  have hb : bytesOf "foo\n\n  \n\nbar\n".toList = [.lead 'f', .lead 'o', .lead 'o', NL, NL, .lead ' ', .lead ' ', NL, NL,
    .lead 'b', .lead 'a', .lead 'r', NL] := by decide_lit
  rw [hb]
  refine ⟨by omega, by omega, ⟨.lead 'o', rfl, rfl⟩, ⟨.lead 'b', rfl, rfl⟩, ?_, by simp⟩
  intro i h1 h2
  have : i = 3 ∨ i = 4 ∨ i = 5 ∨ i = 6 ∨ i = 7 ∨ i = 8 := by omega
  rcases this with rfl | rfl | rfl | rfl | rfl | rfl
  · exact ⟨NL, rfl, rfl⟩
  · exact ⟨NL, rfl, rfl⟩
  · exact ⟨.lead ' ', rfl, rfl⟩
  · exact ⟨.lead ' ', rfl, rfl⟩
  · exact ⟨NL, rfl, rfl⟩
  · exact ⟨NL, rfl, rfl⟩

end Chiritori.Props.C13
