import Chiritori.Lemmas.DecideLit
import Chiritori.Lemmas.Remove
/-
  C04 — No-op identity when nothing is ready.

  `Statement`: if the reference evaluation (`Spec.nothingReady`: every element of the parse forest either
  fails its condition / is skipped / is unregistered, or has an empty extent because its unwrap-block cannot be
  unwrapped) finds no ready element, `clean` returns the source unchanged, byte for byte.
  Malformed, unclosed and stray tags are not elements of the forest at all (C10).
-/
namespace Chiritori.Props.C04
open Chiritori Chiritori.Spec

theorem createRange_empty_of_extent_nil (b : Bytes) (el : Element) (st en : Token)
    (h1 : 0 < st.bstop) (h2 : en.bstart ≤ b.length) (he : extentOf b el st en = []) :
    (createRange b el st en).1.isEmpty = true := by
  rcases createRange_cases b el st en h1 h2 with ⟨⟨r, hcr, h⟩, _⟩ | ⟨_, _, hx⟩ | ⟨_, _, _, _, _, _, _, _, hx⟩
  · rw [hcr]; exact h
  · rw [hx] at he; cases he
  · rw [hx] at he; cases he

theorem collect_nil_aux (cfg : Cfg) (content : Bytes) :
    (∀ p, (∀ el st en, (el, st, en) ∈ elementsOfPart p → elementRange cfg content false el st en = none) →
      (collectPart cfg content false p).1 = []) ∧
    (∀ ps, (∀ el st en, (el, st, en) ∈ elementsOf ps → elementRange cfg content false el st en = none) →
      (collect cfg content false ps).1 = []) := by
  apply part_parts_induction
  · intro t _; rfl
  · intro el st en ch ih h
    simp only [collectPart, h el st en List.mem_cons_self]
    exact ih fun el' st' en' he => h el' st' en' (List.mem_cons_of_mem _ he)
  · intro _; rfl
  · intro p ps hp hps h
    simp only [collect]
    rw [hp fun el st en he => h el st en (List.mem_append_left _ he),
      hps fun el st en he => h el st en (List.mem_append_right _ he)]
    rfl

theorem collect_nil (cfg : Cfg) (content : Bytes) : ∀ (parts : List Part),
    (∀ el st en, (el, st, en) ∈ elementsOf parts → elementRange cfg content false el st en = none) →
    (collect cfg content false parts).1 = [] :=
  (collect_nil_aux cfg content).2

theorem collectPart_nil (cfg : Cfg) (content : Bytes) : ∀ (p : Part),
    (∀ el st en, (el, st, en) ∈ elementsOfPart p → elementRange cfg content false el st en = none) →
    (collectPart cfg content false p).1 = [] :=
  (collect_nil_aux cfg content).1

theorem clean_of_no_markers (src ds de : List Char) (cfg : Cfg)
    (h : buildRemoveMarker cfg (bytesOf src) (parseSource src ds de) = []) : clean src ds de cfg = .ok src := by
  unfold clean
  simp only [h]
  simp [removeMarkers, deleteAll, getRemovedPos, removedPosAux, format, formatCollect, mergeRanges,
    mergeOverlapped, deleteRanges, bind, Except.bind, pure, Except.pure]

def Statement : Prop :=
  ∀ (src ds de : List Char) (cfg : Cfg), ds ≠ [] → de ≠ [] →
    nothingReady src ds de cfg = true → clean src ds de cfg = .ok src

theorem c04 : Statement := by
  intro src ds de cfg _ hde hn
  apply clean_of_no_markers
  obtain ⟨hs, hc⟩ := buildRemoveMarker_spec src ds de cfg hde
  -- a first marker would cover its own start, but the markers cover the ready extents, and there are none
  cases hm : buildRemoveMarker cfg (bytesOf src) (parseSource src ds de) with
  | nil => rfl
  | cons m ms =>
    rw [hm] at hs hc
    have := (hc m.start).mp ⟨m, List.mem_cons_self, Nat.le_refl _, hs.2.1⟩
    rw [List.isEmpty_iff.mp hn] at this
    cases this

/-! Non-vacuity: a source with a pending element, a skipped ready element and an unwrap-block that cannot be unwrapped. -/
def exCfg : Cfg := ⟨"tl".toList, "rm".toList, 1577836800, 0, "+00:00".toList, ["a".toList]⟩
def exSrc : List Char :=
  "x\n<tl to='2999-01-01 00:00:00'>\ny\n</tl>\n<rm name='a' skip>\nz\n</rm>\n<rm name='a' unwrap-block>\nw\n</rm>\n".toList
/-- both facts in one evaluation: the kernel parses `exSrc` once -/
theorem exSrc_facts : nothingReady exSrc "<".toList ">".toList exCfg = true ∧
    (elementsOf (parseSource exSrc "<".toList ">".toList)).length = 3 := by
  decide_lit exSrc exCfg
example : nothingReady exSrc "<".toList ">".toList exCfg = true := exSrc_facts.1
example : (elementsOf (parseSource exSrc "<".toList ">".toList)).length = 3 := exSrc_facts.2

end Chiritori.Props.C04
