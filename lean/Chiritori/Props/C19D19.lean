import Chiritori.Lemmas.DecideLit
import Chiritori.Props.C19
/-
  The known finding D19, replayed in the kernel: idempotence fails when an unwrap-block takes the opening tag of another
  element away with its wrapper line while a stray opening tag of the same name stands in front of the block - the
  stranded closing tag then pairs with the stray opening tag in the output, and a second run removes what the first
  run had kept.
-/
namespace Chiritori.Props.C19
open Chiritori

def d19 : List Char :=
  "<rm name='a'>\nx\n<rm name='a' unwrap-block>\n{ <rm name='b'>\n  body\n  </rm>\n  more\n}\n</rm>\nend\n".toList

theorem c19_negation_D19 :
    cleanA d19 0 = "<rm name='a'>\nx\nbody\n</rm>\nmore\nend\n".toList ∧
    cleanA (cleanA d19 0) 0 = "more\nend\n".toList := by decide_lit d19

/-- the second form: no tag on a wrapper line, but an unclosed ready opening tag inside the body of the unwrapped block and
    a stray closing tag behind it - the block's closing tag used to cut the opening tag off -/
def d19b : List Char :=
  "<tl to='2000-01-01 00:00:00' unwrap-block>\n{\n<rm name='a'>\nbody\n}\n</tl>\nx\n</rm>\nend\n".toList

theorem c19_negation_D19b :
    cleanA d19b 1577836800 = "<rm name='a'>\nbody\nx\n</rm>\nend\n".toList ∧
    cleanA (cleanA d19b 1577836800) 1577836800 = "end\n".toList := by decide_lit d19b

end Chiritori.Props.C19
