import Chiritori.Lemmas.DecideLit
import Chiritori.Props.C13Doc
import Chiritori.Props.C12Source
/-
  The hypothesis of the document-level statements of C12 / C13 (`BlockStyleK`: every seam stands, in the text after
  removal, on a line of its own that is not the first) from a condition on the *source*: every removed range begins
  behind nothing but blanks on its line - a line that is not the first - and ends in front of a line break (or at the end
  of the text), and no removed range begins on a line break.
-/
namespace Chiritori.Props.C13
open Chiritori Chiritori.Spec Chiritori.Props.C12

/-- the removed ranges of a block document, in the source -/
def BlockMarkers (b : Bytes) (M : List Marker) : Prop :=
  ∀ m ∈ M, (b[m.stop]? = some NL ∨ m.stop = b.length) ∧ b[m.start]? ≠ some NL ∧
    ∃ u, u ≤ m.start ∧ ((0 < u ∧ b[u - 1]? = some NL) ∨ (u = 0 ∧ m.start = 0)) ∧
      ∀ i, u ≤ i → i < m.start → ∃ x, b[i]? = some x ∧ isBlankByte x

theorem msorted_apart : ∀ (ms : List Marker) (lo hi : Nat), MSorted ms lo hi → ∀ m ∈ ms, ∀ m' ∈ ms,
    m = m' ∨ m.stop ≤ m'.start ∨ m'.stop ≤ m.start
  | [], _, _, _, m, hm, _, _ => by cases hm
  | a :: as, lo, hi, h, m, hm, m', hm' => by
    obtain ⟨g1, g2, g3⟩ := h
    have hb := MSorted_bounds as a.stop hi g3
    rcases List.mem_cons.mp hm with e1 | h1
    · rcases List.mem_cons.mp hm' with e2 | h2
      · exact Or.inl (by rw [e1, e2])
      · exact Or.inr (Or.inl (by rw [e1]; exact (hb m' h2).1))
    · rcases List.mem_cons.mp hm' with e2 | h2
      · exact Or.inr (Or.inr (by rw [e2]; exact (hb m h1).1))
      · exact msorted_apart as a.stop hi g3 m h1 m' h2

/-- a position behind blanks only, on a line that is not the first (or at offset 0), that is not a line break -/
def StartOK (b : Bytes) (x : Nat) : Prop :=
  b[x]? ≠ some NL ∧ ∃ u, u ≤ x ∧ ((0 < u ∧ b[u - 1]? = some NL) ∨ (u = 0 ∧ x = 0)) ∧
    ∀ i, u ≤ i → i < x → ∃ y, b[i]? = some y ∧ isBlankByte y

def StopOK (b : Bytes) (y : Nat) : Prop := b[y]? = some NL ∨ y = b.length

/-- no other removed range reaches into the blanks in front of a removed range, nor ends on the line break before
    them: it would end in front of a line break, and the range itself does not begin with one -/
theorem free_before {X : List Rng} {b : Bytes} {M : List Marker} (hs : MSorted M 0 b.length)
    (hcov : ∀ i, inAny X i = true ↔ mcov M i) (hbm : BlockMarkers b M) {m : Marker} (hm : m ∈ M) {u : Nat}
    (hu : ∀ i, u ≤ i → i < m.start → ∃ x, b[i]? = some x ∧ isBlankByte x) (i : Nat) (hi1 : u - 1 ≤ i)
    (hi2 : i < m.start) : inAny X i = false := by
  cases hx : inAny X i with
  | false => rfl
  | true =>
    obtain ⟨m', hm', c1, c2⟩ := (hcov i).mp hx
    obtain ⟨hstop', _⟩ := hbm m' hm'
    have := (MSorted_bounds M 0 b.length hs m hm).2
    rcases msorted_apart M 0 b.length hs m hm m' hm' with rfl | h | h
    · omega
    · omega
    · -- `m'` ends inside the blanks, or where `m` begins
      have hnl : b[m'.stop]? = some NL := hstop'.resolve_right (by omega)
      by_cases he : m'.stop = m.start
      · exact absurd (he ▸ hnl) (hbm m hm).2.1
      · obtain ⟨x, hx1, hx2⟩ := hu m'.stop (by omega) (by omega)
        cases hnl.symm.trans hx1
        rcases hx2 with h' | h' <;> cases h'

/-- the byte behind a removed range is not removed: a range beginning there would begin with a line break -/
theorem free_stop {X : List Rng} {b : Bytes} {M : List Marker} (hs : MSorted M 0 b.length)
    (hcov : ∀ i, inAny X i = true ↔ mcov M i) (hbm : BlockMarkers b M) {m : Marker} (hm : m ∈ M)
    (hnl : b[m.stop]? = some NL) : inAny X m.stop = false := by
  cases hx : inAny X m.stop with
  | false => rfl
  | true =>
    obtain ⟨m', hm', c1, c2⟩ := (hcov m.stop).mp hx
    have := (MSorted_bounds M 0 b.length hs m hm).2.1
    rcases msorted_apart M 0 b.length hs m hm m' hm' with rfl | h | h
    · omega
    · exact absurd ((show m.stop = m'.start by omega) ▸ hnl) (hbm m' hm').2.1
    · omega

/-- a block document in the source gives block-style seams in the text after removal -/
theorem blockStyle_of_blockMarkers (X : List Rng) (b : Bytes) (M : List Marker) (hs : MSorted M 0 b.length)
    (hcov : ∀ i, inAny X i = true ↔ mcov M i) (hbm : BlockMarkers b M) :
    BlockStyleK (minusRanges b X) (M.map fun m => koffTo X b m.start) := by
  refine blockStyleK_iff.mpr fun p hp => ?_
  obtain ⟨m, hm, rfl⟩ := List.mem_map.mp hp
  obtain ⟨hstop, _, u, hu1, hu2, hu3⟩ := hbm m hm
  obtain ⟨_, b2, b3⟩ := MSorted_bounds M 0 b.length hs m hm
  -- the range itself is removed, so the seam stands where the byte behind the range does
  have hdrop : koffTo X b m.stop = koffTo X b m.start := by
    have := koffTo_drop X b m.start (m.stop - m.start) fun i hi1 hi2 => (hcov i).mpr ⟨m, hm, hi1, by omega⟩
    rwa [show m.start + (m.stop - m.start) = m.stop by omega] at this
  have hnl : (minusRanges b X)[koffTo X b m.start]? = some NL ∨ koffTo X b m.start = (minusRanges b X).length := by
    rw [← hdrop]
    exact hstop.imp (fun hnl => kept_at X b m.stop NL hnl (free_stop hs hcov hbm hm hnl))
      fun hend => by rw [hend, koffTo_len]
  rcases hu2 with ⟨hu0, hunl⟩ | ⟨hu0, hm0⟩
  · -- the line of the seam: the line break before it and its blanks are kept
    obtain ⟨hA, hN, hB⟩ := kept_line X b m.start u hu0 hu1 (by omega) hunl (free_before hs hcov hbm hm hu3)
    exact ⟨koffTo X b (u - 1) + 1, hnl, by omega, Or.inr hN, fun i h1 h2 => hB isBlankByte hu3 i h1 h2, by omega⟩
  · rw [hm0, koffTo_zero] at hnl ⊢
    exact ⟨0, hnl, Nat.le_refl _, Or.inl rfl, fun i _ hi2 => by omega, fun _ => rfl⟩

/-- ... for the markers and seam positions `clean` computes -/
theorem blockStyle_of_blockDoc (src ds de : List Char) (cfg : Cfg) (hde : de ≠ [])
    (hbm : BlockMarkers (bytesOf src) (buildRemoveMarker cfg (bytesOf src) (parseSource src ds de))) :
    BlockStyleK (minusRanges (bytesOf src) (extentsOfSource src ds de cfg))
      (positions (buildRemoveMarker cfg (bytesOf src) (parseSource src ds de)) 0) := by
  obtain ⟨hs, hcov⟩ := buildRemoveMarker_spec src ds de cfg hde
  rw [positions_are_offsets src ds de cfg hde]
  exact blockStyle_of_blockMarkers _ _ _ (by simpa using hs) (fun i => (hcov i).symm) hbm

def blockMarkerB (b : Bytes) (m : Marker) : Bool :=
  (b[m.stop]? == some NL || m.stop == b.length) && (b[m.start]? != some NL) &&
    (match lineStartBlank b m.start m.start with
     | some u => (decide (0 < u) && b[u - 1]? == some NL) || (u == 0 && m.start == 0)
     | none => false)

def startOKB (b : Bytes) (x : Nat) : Bool :=
  (b[x]? != some NL) &&
    (match lineStartBlank b x x with
     | some u => (decide (0 < u) && b[u - 1]? == some NL) || (u == 0 && x == 0)
     | none => false)

theorem startOKB_sound (b : Bytes) (x : Nat) (h : startOKB b x = true) : StartOK b x := by
  simp only [startOKB, Bool.and_eq_true, bne_iff_ne, ne_eq] at h
  obtain ⟨h1, h3⟩ := h
  refine ⟨h1, ?_⟩
  cases hl : lineStartBlank b x x with
  | none => rw [hl] at h3; cases h3
  | some u =>
    simp only [hl, Bool.or_eq_true, Bool.and_eq_true, decide_eq_true_eq, beq_iff_eq] at h3
    obtain ⟨g1, _, g3⟩ := lineStartBlank_spec b x x u hl
    exact ⟨u, g1, h3, g3⟩

theorem blockMarkerB_sound (b : Bytes) (M : List Marker) (h : M.all (blockMarkerB b) = true) : BlockMarkers b M := by
  intro m hm
  have hmB := List.all_eq_true.mp h m hm
  simp only [blockMarkerB, Bool.and_eq_true, Bool.or_eq_true, beq_iff_eq, bne_iff_ne, ne_eq] at hmB
  exact ⟨hmB.1.1, startOKB_sound b m.start (by simp only [startOKB, Bool.and_eq_true, bne_iff_ne]; exact ⟨hmB.1.2, hmB.2⟩)⟩

example : BlockMarkers (bytesOf exSrc) (buildRemoveMarker exCfg (bytesOf exSrc) (parseSource exSrc "<".toList ">".toList)) :=
  blockMarkerB_sound _ _ (by rw [exM_eq]; decide_lit exSrc)

end Chiritori.Props.C13
