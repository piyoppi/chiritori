import Chiritori.Lemmas.DecideLit
import Chiritori.Props.C15
import Chiritori.Lemmas.EraseItem
import Chiritori.Lemmas.ItemLines
import Chiritori.Lemmas.PiecesOut
/-
  C16 — List items render the right lines, numbers, columns and valid JSON.

  The plain item is the start marker line, the source lines `first .. last` behind their numbers, and the end marker
  line (`item_shows_source_lines_cr`; its premises about carriage returns hold for texts without any,
  `item_shows_source_lines`, and for CR LF texts, `item_shows_source_lines_crlf` in `C16CrLfText`); the markers stand in
  the column of the region (`marker_pad`); the pretty form is the JSON form with colour codes inserted
  (`json_block_is_pretty_block`, `pretty_vs_json`, and `..._cr` for texts with carriage returns); the JSON writer
  yields one object per region and no control character (`json_shape`, `buildList_length`, `json_escape_safe`).
  C15's last clause: what stands between the colour codes is the text of the region (`highlight_is_region`,
  `highlight_is_region_nl`).
  Not proved: texts with a carriage return that no line break follows (correspondence and reference renderer),
  serde_json itself (modelled), the file starting with a line break (D8), a region that ends with two line breaks
  (it shows one line less than its line range).
-/
namespace Chiritori.Props.C16
open Chiritori Chiritori.Spec

/-- tabs first (4 spaces each), then the remaining columns: all spaces; with `pad = lno + ofs - tabs` as `itemGeom`
    sets it (`startPad`, `endPad`) there are `lno + ofs + 3 * tabs` of them -/
theorem marker_pad (tabs pad : Nat) :
    (List.replicate tabs tabspace).flatten ++ List.replicate pad ' ' = List.replicate (4 * tabs + pad) ' ' := by
  induction tabs with
  | zero => simp
  | succ n ih =>
    simp only [List.replicate_succ, List.flatten_cons, List.append_assoc, ih]
    have : tabspace = List.replicate 4 ' ' := by decide_lit tabspace
    rw [this, List.replicate_append_replicate]
    congr 1; omega

theorem zipLines_nil : ∀ (nums : List Nat), zipLines nums [] = []
  | [] => rfl
  | _ :: is => by simp only [zipLines]; exact zipLines_nil is

theorem zipLines_take : ∀ (n a : Nat) (ls : List (List Char)),
    zipLines (List.range' a n) ls = ((ls.take n).zipIdx a).flatMap fun (l, i) => lineColumn i ++ l ++ ['\n']
  | 0, _, _ => by simp [zipLines]
  | n + 1, a, [] => by simp [zipLines_nil]
  | n + 1, a, l :: ls => by
    simp only [List.range'_succ, zipLines, List.take_succ_cons, List.zipIdx_cons, List.flatMap_cons]
    rw [zipLines_take n (a + 1) ls]

/-- the shown lines carry consecutive numbers, one per source line, in order -/
theorem zipLines_numbers (a : Nat) (lines : List (List Char)) :
    zipLines (List.range' a lines.length) lines =
      (lines.zipIdx a).flatMap fun (l, i) => lineColumn i ++ l ++ ['\n'] := by
  rw [zipLines_take, List.take_length]

theorem json_shape (items : List ListItem) :
    jsonList items = ['['] ++ joinWith [','] (items.map jsonItem) ++ [']'] := rfl

theorem buildList_length (b : Bytes) (lm : List Nat) (ms : List (Marker × Bool)) (items : List ListItem)
    (h : buildList b lm ms = .ok items) :
    items.length = ms.length ∧ items.map (·.ready) = ms.map (·.2) := by
  induction ms generalizing items with
  | nil => cases h; exact ⟨rfl, rfl⟩
  | cons m ms ih =>
    unfold buildList at h
    split at h
    · cases h
    · split at h
      · cases h
      · split at h
        · cases h
        · rename_i tail hr
          cases h
          obtain ⟨i1, i2⟩ := ih tail hr
          simp [i1, i2]

theorem ge32_ite {p : Prop} [Decidable p] {a b : List Char} (ha : p → ∀ c ∈ a, c.toNat ≥ 32)
    (hb : ¬p → ∀ c ∈ b, c.toNat ≥ 32) : ∀ c ∈ (if p then a else b), c.toNat ≥ 32 := by
  split
  · exact ha ‹_›
  · exact hb ‹_›

theorem hexDigit_ge (n : Nat) (h : n < 16) : (hexDigit n).toNat ≥ 32 := by
  revert n; decide

/-- no raw control character survives escaping: every character of the escaped block is printable-range
    (control characters, including line breaks and tabs, are replaced by backslash escapes) -/
theorem json_escape_safe (s : List Char) : ∀ c ∈ jsonEscape s, c.toNat ≥ 32 := by
  induction s with
  | nil => simp [jsonEscape]
  | cons x xs ih =>
    intro c hc
    rw [jsonEscape, List.mem_append] at hc
    rcases hc with hc | hc
    · -- the escape of one character: one branch of `jsonEscape` after the other
      revert c
      refine ge32_ite (fun _ => by decide_lit) fun _ => ge32_ite (fun _ => by decide_lit) fun _ =>
        ge32_ite (fun _ => by decide_lit) fun _ => ge32_ite (fun _ => by decide_lit) fun _ =>
        ge32_ite (fun _ => by decide_lit) fun _ => ge32_ite (fun _ => by decide_lit) fun _ =>
        ge32_ite (fun _ => by decide_lit) fun _ => ge32_ite (fun hlt d hd => ?_) (fun hge d hd => ?_)
      · have l8 : ∀ c ∈ "\\u00".toList, c.toNat ≥ 32 := by decide_lit
        rcases List.mem_append.mp hd with hd | hd
        · exact l8 d hd
        · simp only [List.mem_cons, List.not_mem_nil, or_false] at hd
          rcases hd with rfl | rfl
          · exact hexDigit_ge _ (by omega)
          · exact hexDigit_ge _ (by omega)
      · rw [List.mem_singleton.mp hd]; omega
    · exact ih c hc

theorem buildItem_ok (s : List Char) (start stop : Nat) (isRemoval coloring : Bool) (lr : Nat × Nat)
    (h1 : BPos (bytesOf s) start) (h2 : BPos (bytesOf s) stop) (hlt : start < stop) :
    buildItem (bytesOf s) start stop isRemoval coloring (some lr) =
      .ok (renderItem coloring isRemoval (some lr) (geomOf (bytesOf s) start stop (some lr))) := by
  unfold buildItem
  rw [itemGeom_ok s start stop lr h1 h2 hlt]

theorem block_of_er (s : List Char) (start stop : Nat) (isRemoval : Bool) (lr : Nat × Nat)
    (h1 : BPos (bytesOf s) start) (h2 : BPos (bytesOf s) stop) (hlt : start < stop)
    (her : Er (renderItem true isRemoval (some lr) (geomOf (bytesOf s) start stop (some lr)))
      (renderItem false isRemoval (some lr) (geomOf (bytesOf s) start stop (some lr)))) :
    ∃ y x, buildItem (bytesOf s) start stop isRemoval true (some lr) = .ok y ∧
      buildItem (bytesOf s) start stop isRemoval false (some lr) = .ok x ∧ Er y x ∧
      ((∀ c ∈ s, c ≠ '\x1b') → stripAnsi y = x) :=
  ⟨_, _, buildItem_ok s start stop isRemoval true lr h1 h2 hlt, buildItem_ok s start stop isRemoval false lr h1 h2 hlt, her,
    fun hesc => strip_er her (noEsc_renderItem isRemoval (some lr) _ fun c hc => hesc c (geom_chars s start stop _ c hc))⟩

/-- C16, last clause, one item: for a text without carriage returns, the pretty (coloured) rendering of a region is
    the plain rendering - the block the JSON form carries - with colour codes inserted; if the text has no escape
    character of its own, stripping ANSI colour sequences from the pretty block gives the JSON block -/
theorem json_block_is_pretty_block (s : List Char) (start stop : Nat) (isRemoval : Bool) (lr : Nat × Nat)
    (h1 : BPos (bytesOf s) start) (h2 : BPos (bytesOf s) stop) (hlt : start < stop) (hcr : ∀ c ∈ s, c ≠ '\r') :
    ∃ y x, buildItem (bytesOf s) start stop isRemoval true (some lr) = .ok y ∧
      buildItem (bytesOf s) start stop isRemoval false (some lr) = .ok x ∧ Er y x ∧
      ((∀ c ∈ s, c ≠ '\x1b') → stripAnsi y = x) :=
  block_of_er s start stop isRemoval lr h1 h2 hlt
    (er_renderItem true isRemoval (some lr) _ fun c hc => hcr c (geom_chars s start stop _ c hc))

/-- a text in which no carriage return is followed by another one and which does not end with one: no line of it
    (as `str::lines` reads it) ends with a carriage return -/
theorem lines_no_trailing_cr : ∀ (m cur : List Char),
    (∀ u v, cur ++ m ≠ u ++ '\r' :: '\r' :: v) → (cur ++ m).getLast? ≠ some '\r' → (∀ c ∈ cur, c ≠ '\n') →
    ∀ l ∈ (splitInclusive m cur).map stripLineEnd, l.getLast? ≠ some '\r' := by
  intro m
  induction m with
  | nil =>
    intro cur _ hlast hn l hl
    cases cur with
    | nil => nomatch hl
    | cons d ds =>
      rw [List.mem_singleton.mp hl, stripLineEnd_id _ fun hh => hn _ (List.mem_of_getLast? hh) rfl]
      rwa [List.append_nil] at hlast
  | cons c cs ih =>
    intro cur hrr hlast hn l hl
    rw [splitInclusive] at hl
    split at hl
    · rename_i hc
      subst hc
      rcases List.mem_cons.mp hl with rfl | hl
      · rw [stripLineEnd_piece]
        exact stripCR_last fun u hu => hrr u ('\n' :: cs) (by rw [hu, List.append_assoc]; rfl)
      · exact ih [] (fun u v hh => hrr (cur ++ '\n' :: u) v (by rw [show cs = _ from hh, List.append_assoc]; rfl))
          (fun hh => hlast ((getLast?_append_cons_iff cur cs (by decide)).mpr hh)) nofun l hl
    · rename_i hc
      exact ih (cur ++ [c]) (fun u v hh => hrr u v (by rwa [List.append_assoc] at hh)) (by rwa [List.append_assoc])
        (List.forall_mem_append.mpr ⟨hn, List.forall_mem_singleton.mpr hc⟩) l hl

/-- C16, last clause, CR LF texts included: the pretty item is the JSON block with colour codes inserted, and stripping
    them gives it back - for a text without escape characters, a region that does not begin between a CR and its LF,
    and a highlighted span none of whose lines ends with a CR (D17; by `lines_no_trailing_cr` it is enough
    that the span has no CR CR and does not end with a CR) -/
theorem json_block_is_pretty_block_cr (s : List Char) (start stop : Nat) (isRemoval : Bool) (lr : Nat × Nat)
    (h1 : BPos (bytesOf s) start) (h2 : BPos (bytesOf s) stop) (hlt : start < stop) (hesc : ∀ c ∈ s, c ≠ '\x1b')
    (hpre : (charsOf (geomOf (bytesOf s) start stop (some lr)).pre).getLast? ≠ some '\r')
    (hmid : ∀ l ∈ rustLines (charsOf (geomOf (bytesOf s) start stop (some lr)).mid), l.getLast? ≠ some '\r') :
    ∃ y x, buildItem (bytesOf s) start stop isRemoval true (some lr) = .ok y ∧
      buildItem (bytesOf s) start stop isRemoval false (some lr) = .ok x ∧ Er y x ∧ stripAnsi y = x := by
  obtain ⟨y, x, hy, hx, her, hst⟩ := block_of_er s start stop isRemoval lr h1 h2 hlt
    (er_renderItem_cr true isRemoval (some lr) _ (fun c hc => hesc c (geom_chars s start stop _ c hc)) hpre hmid)
  exact ⟨y, x, hy, hx, her, hst hesc⟩

def heading (idx : Nat) (ready : Bool) : List Char :=
  "\n-------- [ ".toList ++ natToDigits idx ++ (if ready then " ]  Ready  ".toList else " ] Pending ".toList)
    ++ "--------".toList ++ ['\n']

def prettyOf : Nat → List (Bool × List Char) → List Char
  | _, [] => []
  | idx, (ready, y) :: rest => heading idx ready ++ y ++ prettyOf (idx + 1) rest

/-- the two forms of a list each of whose items has two forms related as in `block_of_er`; `E`: what stripping
    needs -/
theorem pretty_vs_json_of (b : Bytes) (lm : List Nat) (E : Prop) : ∀ (ms : List (Marker × Bool)) (idx : Nat),
    (∀ m ∈ ms, m.1.start < m.1.stop ∧ ∃ y x,
      buildItem b m.1.start m.1.stop m.2 true (some (findLine lm m.1.start, findLine lm (m.1.stop - 1))) = .ok y ∧
      buildItem b m.1.start m.1.stop m.2 false (some (findLine lm m.1.start, findLine lm (m.1.stop - 1))) = .ok x ∧
      Er y x ∧ (E → stripAnsi y = x)) →
    ∃ ys items, prettyItems b lm ms idx = .ok (prettyOf idx ((ms.map (·.2)).zip ys)) ∧
      buildList b lm ms = .ok items ∧ ys.length = ms.length ∧
      ErL ys (items.map (·.block)) ∧
      items.map (·.lineRange) = ms.map (fun m => (findLine lm m.1.start, findLine lm (m.1.stop - 1))) ∧
      items.map (·.ready) = ms.map (·.2) ∧
      (E → ys.map stripAnsi = items.map (·.block)) := by
  intro ms
  induction ms with
  | nil => exact fun idx _ => ⟨[], [], rfl, rfl, rfl, trivial, rfl, rfl, fun _ => rfl⟩
  | cons mf rest ih =>
    obtain ⟨m, f⟩ := mf
    intro idx h
    obtain ⟨g3, y, x, hy, hx, her, hst⟩ := h (m, f) List.mem_cons_self
    obtain ⟨ys, items, p1, p2, p3, p4, p5, p6, p7⟩ := ih (idx + 1) fun x hx => h x (List.mem_cons_of_mem _ hx)
    refine ⟨y :: ys, ⟨(findLine lm m.start, findLine lm (m.stop - 1)), x, f⟩ :: items, ?_, ?_, congrArg (· + 1) p3, ⟨her, p4⟩,
      congrArg (_ :: ·) p5, congrArg (_ :: ·) p6, fun hesc => ?_⟩
    · simp only [prettyItems, getLineRange_ok lm _ _ g3, hy, p1]
      simp only [List.map_cons, List.zip_cons_cons, prettyOf]
      unfold heading
      simp only [List.append_assoc]
    · simp only [buildList, getLineRange_ok lm _ _ g3, hx, p2]
    · rw [List.map_cons, List.map_cons, hst hesc, p7 hesc]

/-- C16, last clause, whole list: the pretty form is the sequence of headings (index, Ready / Pending) and blocks;
    the JSON items carry, in the same order, the same status, the same line range, and the block without colours -/
theorem pretty_vs_json (s : List Char) (lm : List Nat) (hcr : ∀ c ∈ s, c ≠ '\r') :
    ∀ (ms : List (Marker × Bool)) (idx : Nat), Renderable (bytesOf s) ms →
    ∃ ys items, prettyItems (bytesOf s) lm ms idx = .ok (prettyOf idx ((ms.map (·.2)).zip ys)) ∧
      buildList (bytesOf s) lm ms = .ok items ∧ ys.length = ms.length ∧
      ErL ys (items.map (·.block)) ∧
      items.map (·.lineRange) = ms.map (fun m => (findLine lm m.1.start, findLine lm (m.1.stop - 1))) ∧
      items.map (·.ready) = ms.map (·.2) ∧
      ((∀ c ∈ s, c ≠ '\x1b') → ys.map stripAnsi = items.map (·.block)) := by
  intro ms idx h
  apply pretty_vs_json_of
  intro m hm
  obtain ⟨g1, g2, g3⟩ := h m hm
  exact ⟨g3, json_block_is_pretty_block s m.1.start m.1.stop m.2 _ g1 g2 g3 hcr⟩

/-- the premises of the single-item statement for the region of one marker -/
def CrOK (s : List Char) (lm : List Nat) (m : Marker) : Prop :=
  let lr := (findLine lm m.start, findLine lm (m.stop - 1))
  (charsOf (geomOf (bytesOf s) m.start m.stop (some lr)).pre).getLast? ≠ some '\r' ∧
  ∀ l ∈ rustLines (charsOf (geomOf (bytesOf s) m.start m.stop (some lr)).mid), l.getLast? ≠ some '\r'

/-- C16, last clause, whole list, for texts with carriage returns: `pretty_vs_json` under the two premises of
    `json_block_is_pretty_block_cr` for each item -/
theorem pretty_vs_json_cr (s : List Char) (lm : List Nat) (hesc : ∀ c ∈ s, c ≠ '\x1b') :
    ∀ (ms : List (Marker × Bool)) (idx : Nat), Renderable (bytesOf s) ms → (∀ m ∈ ms, CrOK s lm m.1) →
    ∃ ys items, prettyItems (bytesOf s) lm ms idx = .ok (prettyOf idx ((ms.map (·.2)).zip ys)) ∧
      buildList (bytesOf s) lm ms = .ok items ∧ ys.length = ms.length ∧
      ErL ys (items.map (·.block)) ∧
      items.map (·.lineRange) = ms.map (fun m => (findLine lm m.1.start, findLine lm (m.1.stop - 1))) ∧
      items.map (·.ready) = ms.map (·.2) ∧
      ys.map stripAnsi = items.map (·.block) := by
  intro ms idx h hc
  obtain ⟨ys, items, p1, p2, p3, p4, p5, p6, p7⟩ := pretty_vs_json_of (bytesOf s) lm True ms idx fun m hm => by
    obtain ⟨g1, g2, g3⟩ := h m hm
    obtain ⟨y, x, hy, hx, her, hst⟩ := json_block_is_pretty_block_cr s m.1.start m.1.stop m.2 _ g1 g2 g3 hesc
      (hc m hm).1 (hc m hm).2
    exact ⟨g3, y, x, hy, hx, her, fun _ => hst⟩
  exact ⟨ys, items, p1, p2, p3, p4, p5, p6, p7 trivial⟩

/-! Non-vacuity: a region with a tab and two lines; the pretty block, stripped, is the JSON block. -/
example :
    (match buildItem (bytesOf "a\n\tb <x>\ny</x> c\n".toList) 5 14 true true (some (2, 3)),
           buildItem (bytesOf "a\n\tb <x>\ny</x> c\n".toList) 5 14 true false (some (2, 3)) with
     | .ok y, .ok x => stripAnsi y == x && y != x
     | _, _ => false) = true := by decide_lit

/-! Non-vacuity: the opening part of an unwrap-block in a CR LF text (the witness of D17): the region ends in front of
    the CR LF of the wrapper line; `colorEndOf` stops short of that CR, so the premises hold and the two forms agree. -/
example :
    let s := "a\r\n<x>\r\n{\r\n  y\r\n".toList
    (charsOf (geomOf (bytesOf s) 3 10 (some (2, 3))).pre).getLast? ≠ some '\r' ∧
    (rustLines (charsOf (geomOf (bytesOf s) 3 10 (some (2, 3))).mid)).all (fun l => l.getLast? != some '\r') = true ∧
    (match buildItem (bytesOf s) 3 10 true true (some (2, 3)), buildItem (bytesOf s) 3 10 true false (some (2, 3)) with
     | .ok y, .ok x => stripAnsi y == x && y != x
     | _, _ => false) = true := by
  intro s; rw [show s = _ from String.toList_ofList]
  decide_lit

def srcLines (s : List Char) : List (List Char) := linesT s []

theorem rustLines_removedText (isRemoval : Bool) (g : ItemGeom) (hmid : (charsOf g.mid).getLast? ≠ some '\n')
    (hcrm : CrThenNl (charsOf g.mid)) (hcrp : (charsOf g.pre).getLast? ≠ some '\r') :
    rustLines (removedText false isRemoval g) =
      (linesT (charsOf g.pre ++ (charsOf g.mid ++ charsOf g.post)) []).map stripCR := by
  rw [removedText_eq, removedBody_false, joinWith_rustLines_cr _ hcrm hmid, rustLines, rustLines_terminated_cr,
    List.append_assoc]
  exact linesT_dropCrLf_pre _ _ hcrm _ [] (by simpa using hcrp)

/-- C16, first clause, for a text with carriage returns: the plain item is the start marker line, the source lines
    `first .. last` WITHOUT THEIR CARRIAGE RETURNS - exactly those, `last + 1 - first` of them - each behind its number,
    tabs expanded, and the end marker line.  Premises on the highlighted span: every carriage return in it is directly
    followed by a line break (`CrThenNl`: so it has no `\r\r` and does not end with one - which `colorEndOf` sees to
    in CR LF files), it does not end with a line break, and the text in front of it on its first line does
    not end with a carriage return (the region does not begin between a CR and its LF).  `first` / `last` are the
    line numbers `list` reports (`line_numbers`). -/
theorem item_shows_source_lines_cr (s : List Char) (start stop : Nat) (isRemoval : Bool)
    (h1 : BPos (bytesOf s) start) (h2 : BPos (bytesOf s) stop) (hlt : start < stop)
    (h0 : (bytesOf s)[0]? ≠ some NL)
    (a z : Nat) (ha : a = 1 + ((lineBreaks (bytesOf s)).filter fun p => decide (p < start)).length)
    (hz : z = 1 + ((lineBreaks (bytesOf s)).filter fun p => decide (p < stop - 1)).length)
    (hmid : (charsOf (geomOf (bytesOf s) start stop (some (a, z))).mid).getLast? ≠ some '\n')
    (hcrm : CrThenNl (charsOf (geomOf (bytesOf s) start stop (some (a, z))).mid))
    (hcrp : (charsOf (geomOf (bytesOf s) start stop (some (a, z))).pre).getLast? ≠ some '\r') :
    ((((srcLines s).drop (a - 1)).take (z + 1 - a)).map stripCR).length = z + 1 - a ∧
    buildItem (bytesOf s) start stop isRemoval false (some (a, z)) = .ok (
      List.replicate (4 * (geomOf (bytesOf s) start stop (some (a, z))).startTabs
        + (geomOf (bytesOf s) start stop (some (a, z))).startPad) ' ' ++ strMarkerStart ++ ['\n']
      ++ replaceTabs ((((((srcLines s).drop (a - 1)).take (z + 1 - a)).map stripCR).zipIdx a).flatMap
          fun (l, i) => lineColumn i ++ l ++ ['\n'])
      ++ List.replicate (4 * (geomOf (bytesOf s) start stop (some (a, z))).endTabs
        + (geomOf (bytesOf s) start stop (some (a, z))).endPad) ' ' ++ strMarkerEnd) := by
  have hstop : stop - 1 ≤ (bytesOf s).length := Nat.le_trans (Nat.sub_le _ _) h2.2
  obtain ⟨a1, a2, a3⟩ := lineStartOf_spec (bytesOf s) start (Nat.le_trans (Nat.le_of_lt hlt) h2.2) h0
  obtain ⟨c1, _, c3, _⟩ := lineEndOf_facts (bytesOf s) (stop - 1) hstop
  obtain ⟨lc1, _⟩ := lineEnd_facts s (stop - 1) (by rwa [bytesOf_length] at hstop)
  obtain ⟨_, hce1, hce2⟩ := colorEnd_facts s start stop _ h2 lc1 hlt c1
  -- the item shows the lines of the text from the line start `ls` to the line end `le`
  have hlines := rustLines_removedText isRemoval _ hmid hcrm hcrp
  rw [geomOf_window _ _ _ _ a1 hce1 hce2] at hlines
  generalize lineStartOf (bytesOf s) start = ls at *
  generalize lineEndOf (bytesOf s) (stop - 1) = le at *
  -- the first `z + 1 - a` of these lines are the source lines `a .. z`
  obtain ⟨hcA, hk⟩ := line_numbers_window (bytesOf s) ls start stop le a z a1 hlt c1 a3 ha hz
  have htake := srcLines_window s ls le (Nat.le_trans a1 (Nat.le_trans hce1 hce2)) a2 c3 (z + 1 - a) hk
  rw [hcA] at htake
  refine ⟨by rw [List.length_map, srcLines, htake, List.length_take, linesT_length, count_charsOf]; exact Nat.min_eq_left hk, ?_⟩
  rw [buildItem_ok s start stop isRemoval false (a, z) h1 h2 hlt, renderItem_false, marker_pad,
    List.append_assoc _ (List.flatten _) (List.replicate _ ' '), marker_pad]
  simp only [codeBlockOf, hlines, zipLines_take, ← List.map_take, srcLines, htake]

/-- C16, first clause: for a text without carriage returns that does not begin with a line break (known finding
    D8), and a region whose highlighted span does not end with a line break, the plain item is the start marker
    line, the source lines `first .. last` - exactly those, `last + 1 - first` of them - each behind its number,
    tabs expanded, and the end marker line.  `first` / `last` are the line numbers `list` reports (`line_numbers`). -/
theorem item_shows_source_lines (s : List Char) (start stop : Nat) (isRemoval : Bool)
    (h1 : BPos (bytesOf s) start) (h2 : BPos (bytesOf s) stop) (hlt : start < stop)
    (hcr : ∀ c ∈ s, c ≠ '\r') (h0 : (bytesOf s)[0]? ≠ some NL)
    (a z : Nat) (ha : a = 1 + ((lineBreaks (bytesOf s)).filter fun p => decide (p < start)).length)
    (hz : z = 1 + ((lineBreaks (bytesOf s)).filter fun p => decide (p < stop - 1)).length)
    (hmid : (charsOf (geomOf (bytesOf s) start stop (some (a, z))).mid).getLast? ≠ some '\n') :
    (((srcLines s).drop (a - 1)).take (z + 1 - a)).length = z + 1 - a ∧
    buildItem (bytesOf s) start stop isRemoval false (some (a, z)) = .ok (
      List.replicate (4 * (geomOf (bytesOf s) start stop (some (a, z))).startTabs
        + (geomOf (bytesOf s) start stop (some (a, z))).startPad) ' ' ++ strMarkerStart ++ ['\n']
      ++ replaceTabs (((((srcLines s).drop (a - 1)).take (z + 1 - a)).zipIdx a).flatMap
          fun (l, i) => lineColumn i ++ l ++ ['\n'])
      ++ List.replicate (4 * (geomOf (bytesOf s) start stop (some (a, z))).endTabs
        + (geomOf (bytesOf s) start stop (some (a, z))).endPad) ' ' ++ strMarkerEnd) := by
  have hg : ∀ c, c ∈ charsOf (geomOf (bytesOf s) start stop (some (a, z))).pre ∨
      c ∈ charsOf (geomOf (bytesOf s) start stop (some (a, z))).mid ∨
      c ∈ charsOf (geomOf (bytesOf s) start stop (some (a, z))).post → c ≠ '\r' :=
    fun c hc => hcr c (geom_chars s start stop _ c hc)
  have hid : (((srcLines s).drop (a - 1)).take (z + 1 - a)).map stripCR = ((srcLines s).drop (a - 1)).take (z + 1 - a) :=
    map_stripCR_of_nocr _ fun l hl c hc =>
      hcr c (linesT_subset s [] l (List.mem_of_mem_drop (List.mem_of_mem_take hl)) hc)
  have := item_shows_source_lines_cr s start stop isRemoval h1 h2 hlt h0 a z ha hz hmid
    (CrThenNl_of_nocr _ fun c hc => hg c (Or.inr (Or.inl hc)))
    (fun h => hg _ (Or.inl (List.mem_of_getLast? h)) rfl)
  rwa [hid] at this

/-! Non-vacuity: the region `<x>` .. `</x>` over two lines of a four-line text, a tab in front of it. -/
example :
    let s := "a\n\tb <x>\ny</x> c\nd\n".toList
    (bytesOf s)[0]? ≠ some NL ∧ (∀ c ∈ s, c ≠ '\r') ∧
    (1 + ((lineBreaks (bytesOf s)).filter fun p => decide (p < 5)).length,
     1 + ((lineBreaks (bytesOf s)).filter fun p => decide (p < 14 - 1)).length) = (2, 3) ∧
    ((srcLines s).drop (2 - 1)).take (3 + 1 - 2) = ["\tb <x>".toList, "y</x> c".toList] ∧
    (charsOf (geomOf (bytesOf s) 5 14 (some (2, 3))).mid).getLast? ≠ some '\n' := by
  intro s; rw [show s = _ from String.toList_ofList]
  decide_lit

theorem region_last_byte (s1 w s3 : List Char) {c d : Char} (hd : c ≠ d) :
    (bytesOf (s1 ++ (w ++ [c]) ++ s3))[blen s1 + blen (w ++ [c]) - 1]? ≠ some (.lead d) := by
  rw [bytesOf_append, bytesOf_append, List.append_assoc, ← bytesOf_length s1, ← bytesOf_length (w ++ [c]),
    getElem?_append_mid_last _ _ _ (by simp [bytesOf_append, charBytes])]
  obtain ⟨y, hy, hyc⟩ := bytesOf_last w c
  rw [hy]
  rcases hyc with rfl | rfl
  · nofun
  · exact fun h => hd (ABy.lead.inj (Option.some.inj h))

/-- a region `w ++ [c]`, `c` not a carriage return, whose highlighted span ends where the region does, be it at `stop`
    or at the end of the line of `stop - 1`: the span is the region -/
theorem geomOf_mid_region (s1 w s3 : List Char) (c : Char) (hcr : c ≠ '\r') (stop : Nat) (lr : Option (Nat × Nat))
    (hmin : min stop (lineEndOf (bytesOf (s1 ++ (w ++ [c]) ++ s3)) (stop - 1)) = blen s1 + blen (w ++ [c])) :
    (geomOf (bytesOf (s1 ++ (w ++ [c]) ++ s3)) (blen s1) stop lr).mid = bytesOf (w ++ [c]) := by
  rw [geomOf_mid, colorEndOf_eq_min _ _ _ _ (by rw [hmin]; exact region_last_byte s1 w s3 hcr), hmin,
    bytesOf_append, bytesOf_append, List.append_assoc, ← bytesOf_length s1, ← bytesOf_length (w ++ [c])]
  exact slice_append_mid _ _ _

/-- the premise on the highlighted span holds for every region whose last character is not a line break (every
    default-strategy region: it ends with the end delimiter; every wrapper part with a non-empty wrapper line);
    the span is then the region itself -/
theorem mid_of_last_char (s1 w s3 : List Char) (c : Char) (hc : c ≠ '\n') (hcr : c ≠ '\r') (lr : Option (Nat × Nat)) :
    (geomOf (bytesOf (s1 ++ (w ++ [c]) ++ s3)) (blen s1) (blen s1 + blen (w ++ [c])) lr).mid = bytesOf (w ++ [c]) ∧
    (charsOf (geomOf (bytesOf (s1 ++ (w ++ [c]) ++ s3)) (blen s1) (blen s1 + blen (w ++ [c])) lr).mid).getLast?
      ≠ some '\n' := by
  have hpos : 0 < blen (w ++ [c]) := blen_pos_of_ne_nil (by simp)
  have hlen : blen s1 + blen (w ++ [c]) ≤ (bytesOf (s1 ++ (w ++ [c]) ++ s3)).length := by
    rw [bytesOf_length, blen_append _ s3, blen_append s1]; omega
  -- the last byte of the region is not a line break, so its line ends behind the region
  have hle := lineEndOf_gt (bytesOf (s1 ++ (w ++ [c]) ++ s3)) (blen s1 + blen (w ++ [c]) - 1) (by omega)
    (region_last_byte s1 w s3 hc)
  have hm := geomOf_mid_region s1 w s3 c hcr _ lr (Nat.min_eq_left (by omega))
  refine ⟨hm, ?_⟩
  rw [hm, charsOf_bytesOf, List.getLast?_concat]
  exact fun h => hc (Option.some.inj h)

/-- C15, last clause: the highlighted text of an item - what stands between the colour codes, line by line - is the
    text of its region (a region whose last character is not a line break, in a text without carriage returns).  The
    first conjunct only spells out `removedText`; the second is the claim. -/
theorem highlight_is_region (s1 w s3 : List Char) (c : Char) (hc : c ≠ '\n') (hcr : ∀ d ∈ w ++ [c], d ≠ '\r')
    (lr : Option (Nat × Nat)) (coloring isRemoval : Bool) :
    let g := geomOf (bytesOf (s1 ++ (w ++ [c]) ++ s3)) (blen s1) (blen s1 + blen (w ++ [c])) lr
    removedText coloring isRemoval g = charsOf g.pre
      ++ joinWith ['\n'] ((rustLines (charsOf g.mid)).map fun l => colSpan coloring isRemoval ++ l ++ colOff coloring)
      ++ charsOf g.post ++ ['\n'] ∧
    joinWith ['\n'] (rustLines (charsOf g.mid)) = w ++ [c] := by
  obtain ⟨hm, hl⟩ := mid_of_last_char s1 w s3 c hc (hcr c (by simp)) lr
  refine ⟨rfl, ?_⟩
  rw [hm, charsOf_bytesOf]
  exact joinWith_rustLines_snoc w hc hcr

/-- the complement of `mid_of_last_char`: the highlighted span of a region `w ++ [c] ++ "\n"` stops in front of the
    final line break -/
theorem mid_of_final_nl (s1 w s3 : List Char) (c : Char) (hcr : c ≠ '\r') (lr : Option (Nat × Nat)) :
    (geomOf (bytesOf (s1 ++ ((w ++ [c]) ++ ['\n']) ++ s3)) (blen s1) (blen s1 + blen ((w ++ [c]) ++ ['\n'])) lr).mid
      = bytesOf (w ++ [c]) := by
  have hpos : 0 < blen (w ++ [c]) := blen_pos_of_ne_nil (by simp)
  have e : s1 ++ ((w ++ [c]) ++ ['\n']) ++ s3 = s1 ++ (w ++ [c]) ++ ('\n' :: s3) := by simp
  have hblen : blen s1 + blen ((w ++ [c]) ++ ['\n']) - 1 = blen s1 + blen (w ++ [c]) := by
    rw [blen_append _ ['\n']]; rfl
  -- the byte at the end of the region is the line break, so the line of the region's last byte ends there
  have hnl : (bytesOf (s1 ++ (w ++ [c]) ++ ('\n' :: s3)))[blen s1 + blen (w ++ [c])]? = some NL := by
    rw [← blen_append s1, bytesOf_append, List.getElem?_append_right (by rw [bytesOf_length]; exact Nat.le_refl _),
      bytesOf_length, Nat.sub_self]
    rfl
  rw [e]
  apply geomOf_mid_region s1 w ('\n' :: s3) c hcr
  rw [hblen, lineEndOf_at_nl _ _ (by omega) hnl]
  omega

/-- C15, last clause, for a region that ends with a line break (the end delimiter ends with one), in a text without
    carriage returns in the region: the highlighted text is the region without that line break -/
theorem highlight_is_region_nl (s1 w s3 : List Char) (c : Char) (hc : c ≠ '\n') (hcr : ∀ d ∈ w ++ [c], d ≠ '\r')
    (lr : Option (Nat × Nat)) :
    joinWith ['\n'] (rustLines (charsOf
      (geomOf (bytesOf (s1 ++ ((w ++ [c]) ++ ['\n']) ++ s3)) (blen s1) (blen s1 + blen ((w ++ [c]) ++ ['\n'])) lr).mid))
      = w ++ [c] := by
  rw [mid_of_final_nl s1 w s3 c (hcr c (by simp)) lr, charsOf_bytesOf]
  exact joinWith_rustLines_snoc w hc hcr

/-! instance: delimiters `<` and `>\n`: the region of the element is `<x>\ny</x>\n`; the highlighted span stops in front of
    the final line break -/
example :
    let s := "a\nb <x>\ny</x>\nd\n".toList
    charsOf (geomOf (bytesOf s) 4 14 (some (2, 3))).mid = "<x>\ny</x>".toList ∧ (bytesOf s)[13]? = some NL := by
  intro s; rw [show s = _ from String.toList_ofList]; decide_lit

end Chiritori.Props.C16
