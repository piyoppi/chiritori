import Chiritori.Props.C16
/-
  The premises of `item_shows_source_lines_cr` for CR LF texts: if every carriage return of the text is directly
  followed by a line break (`CrThenNl s`: a CR LF file, an LF file, or a mixture of both kinds of line end), the region
  does not begin with a line break and does not end at byte 1, then its highlighted span satisfies `CrThenNl` and the
  text in front of it on its line does not end with a carriage return (`cr_premises`).
-/
namespace Chiritori.Props.C16
open Chiritori Chiritori.Spec

theorem crThenNl_bytes (s : List Char) (hs : CrThenNl s) (k : Nat) (hk : (bytesOf s)[k]? = some (.lead '\r')) :
    (bytesOf s)[k + 1]? = some NL := by
  have hlt : k < blen s := by simpa using lt_of_getElem?_some _ _ _ hk
  -- the text splits at `k`, and the second part begins with the carriage return
  obtain ⟨s1, s2, rfl, _, _, hd⟩ := split_at_boundary s k (Nat.le_of_lt hlt) (boundary_after_lead s k _ hk)
  have h0 : (bytesOf s2)[0]? = some (.lead '\r') := by rw [← hd, List.getElem?_drop]; exact hk
  have e : (bytesOf (s1 ++ s2))[k + 1]? = (bytesOf s2)[1]? := by rw [← hd, List.getElem?_drop]
  cases s2 with
  | nil => cases h0
  | cons c cs =>
    obtain rfl : c = '\r' := ABy.lead.inj (Option.some.inj h0)
    obtain ⟨t, rfl⟩ := (CrThenNl_right s1 _ hs).1 rfl
    rw [e]; rfl

theorem crThenNl_charsOf : ∀ (X : Bytes), (∀ k, X[k]? = some (.lead '\r') → X[k + 1]? = some NL) → CrThenNl (charsOf X)
  | [], _ => trivial
  | .cont :: rest, h => crThenNl_charsOf rest fun k hk => h (k + 1) hk
  | .lead c :: rest, h => by
    refine ⟨?_, crThenNl_charsOf rest fun k hk => h (k + 1) hk⟩
    rintro rfl
    cases rest with
    | nil => cases h 0 rfl
    | cons y ys =>
      obtain rfl : y = NL := Option.some.inj (h 0 rfl)
      exact ⟨charsOf ys, rfl⟩

theorem last_cr_byte : ∀ (X : Bytes), (∀ k, X[k]? = some (.lead '\r') → X[k + 1]? = some NL ∨ X[k + 1]? = none) →
    (charsOf X).getLast? = some '\r' → X.getLast? = some (.lead '\r')
  | [], _, h => by cases h
  | [.cont], _, h => by cases h
  | [.lead c], _, h => by
    obtain rfl : c = '\r' := Option.some.inj h
    rfl
  | x :: y :: ys, hw, h => by
    rw [List.getLast?_cons_cons]
    refine last_cr_byte (y :: ys) (fun k hk => hw (k + 1) hk) ?_
    cases x with
    | cont => exact h
    | lead c =>
      cases hr : charsOf (y :: ys) with
      | nil =>
        -- then `c` is the last character: a carriage return followed by bytes none of which is a line break
        rw [charsOf, hr] at h
        obtain rfl : c = '\r' := Option.some.inj h
        rcases hw 0 rfl with h1 | h1
        · obtain rfl : y = NL := Option.some.inj h1
          cases hr
        · cases h1
      | cons d ds => rwa [charsOf, hr, List.getLast?_cons_cons] at h

theorem slice_cr (b : Bytes) (hb : ∀ k, b[k]? = some (.lead '\r') → b[k + 1]? = some NL) (i j k : Nat)
    (hk : ((b.take j).drop i)[k]? = some (.lead '\r')) :
    b[i + k]? = some (.lead '\r') ∧ i + k < j ∧
      ((b.take j).drop i)[k + 1]? = if i + k + 1 < j then some NL else none := by
  rw [getElem?_slice] at hk ⊢
  split at hk
  · exact ⟨hk, ‹_›, by rw [← Nat.add_assoc, hb _ hk]⟩
  · cases hk

theorem crThenNl_slice (b : Bytes) (hb : ∀ k, b[k]? = some (.lead '\r') → b[k + 1]? = some NL) (i j : Nat)
    (hj : i < j → b[j - 1]? ≠ some (.lead '\r')) : CrThenNl (charsOf ((b.take j).drop i)) := by
  apply crThenNl_charsOf
  intro k hk
  obtain ⟨hcr, hsc, hk1⟩ := slice_cr b hb i j k hk
  rw [hk1, if_pos]
  refine Nat.lt_of_le_of_ne hsc fun hend => hj (by omega) ?_
  rwa [← hend, Nat.add_sub_cancel]

theorem slice_last_cr (b : Bytes) (hb : ∀ k, b[k]? = some (.lead '\r') → b[k + 1]? = some NL) (i j : Nat)
    (hj : j ≤ b.length) (h : (charsOf ((b.take j).drop i)).getLast? = some '\r') :
    i < j ∧ b[j - 1]? = some (.lead '\r') := by
  have hl := last_cr_byte _ (fun k hk => by
    rw [(slice_cr b hb i j k hk).2.2]
    split
    · exact Or.inl rfl
    · exact Or.inr rfl) h
  rw [List.getLast?_eq_getElem?] at hl
  obtain ⟨hcr, hsc, _⟩ := slice_cr b hb i j _ hl
  rw [List.length_drop, List.length_take, Nat.min_eq_left hj] at hcr hsc
  exact ⟨by omega, by rwa [show i + (j - i - 1) = j - 1 by omega] at hcr⟩

/-- the premises of `item_shows_source_lines_cr` for a text in which every carriage return is followed by a line break -/
theorem cr_premises (s : List Char) (start stop : Nat) (lr : Option (Nat × Nat))
    (h2 : BPos (bytesOf s) stop) (hlt : start < stop) (hstop : 1 < stop) (h0 : (bytesOf s)[0]? ≠ some NL)
    (hs : CrThenNl s) (hstart : (bytesOf s)[start]? ≠ some NL) :
    CrThenNl (charsOf (geomOf (bytesOf s) start stop lr).mid) ∧
    (charsOf (geomOf (bytesOf s) start stop lr).pre).getLast? ≠ some '\r' := by
  have hnext := crThenNl_bytes s hs
  constructor
  · -- the highlighted span does not end with a carriage return: a line break would stand behind it, at `ce`
    rw [geomOf_mid]
    apply crThenNl_slice _ hnext
    intro hsc hcr
    have hnl := hnext _ hcr
    rw [Nat.sub_add_cancel (Nat.lt_of_le_of_lt (Nat.zero_le _) hsc)] at hnl
    obtain ⟨c1, _, _, c4⟩ := lineEndOf_facts (bytesOf s) (stop - 1) (Nat.le_trans (Nat.sub_le _ _) h2.2)
    rcases colorEndOf_cases (bytesOf s) start stop (lineEndOf (bytesOf s) (stop - 1)) with ⟨hce, _, _, k3⟩ | ⟨hce, hc⟩
    · -- shortened: but there stands the carriage return in front of which the span ends
      rw [hce, k3] at hnl
      cases hnl
    · -- not shortened: then the span ends at `stop`, in front of the line end; but the line break would end the line
      rw [hce] at hnl hsc hcr
      have hsl : stop < lineEndOf (bytesOf s) (stop - 1) :=
        Nat.lt_of_not_le fun h => hc ⟨Nat.min_eq_right h, hsc, hcr⟩
      rw [Nat.min_eq_left (Nat.le_of_lt hsl)] at hnl
      exact c4 (Nat.sub_pos_of_lt hstop) stop (Nat.sub_le _ _) hsl hnl
  · -- in front of the region: a line break would stand behind the carriage return, at `start`
    rw [geomOf_pre]
    intro hlast
    obtain ⟨hls, hcr⟩ := slice_last_cr _ hnext _ start (Nat.le_trans (Nat.le_of_lt hlt) h2.2) hlast
    have hnl := hnext _ hcr
    rw [Nat.sub_add_cancel (Nat.lt_of_le_of_lt (Nat.zero_le _) hls)] at hnl
    exact hstart hnl

/-- C16, first clause, for CR LF texts, with the premises in terms of the text: every carriage return of the text is
    directly followed by a line break, the text does not begin with a line break (D8), the region does not begin with
    one and does not end at byte 1, its highlighted span does not end with one: the plain item shows the start marker
    line, the source lines `first .. last` without their carriage returns, numbered, and the end marker line -/
theorem item_shows_source_lines_crlf (s : List Char) (start stop : Nat) (isRemoval : Bool)
    (h1 : BPos (bytesOf s) start) (h2 : BPos (bytesOf s) stop) (hlt : start < stop) (hstop : 1 < stop)
    (hs : CrThenNl s) (h0 : (bytesOf s)[0]? ≠ some NL) (hstart : (bytesOf s)[start]? ≠ some NL)
    (a z : Nat) (ha : a = 1 + ((lineBreaks (bytesOf s)).filter fun p => decide (p < start)).length)
    (hz : z = 1 + ((lineBreaks (bytesOf s)).filter fun p => decide (p < stop - 1)).length)
    (hmid : (charsOf (geomOf (bytesOf s) start stop (some (a, z))).mid).getLast? ≠ some '\n') :
    ((((srcLines s).drop (a - 1)).take (z + 1 - a)).map stripCR).length = z + 1 - a ∧
    buildItem (bytesOf s) start stop isRemoval false (some (a, z)) = .ok (
      List.replicate (4 * (geomOf (bytesOf s) start stop (some (a, z))).startTabs
        + (geomOf (bytesOf s) start stop (some (a, z))).startPad) ' ' ++ strMarkerStart ++ ['\n']
      ++ replaceTabs ((((((srcLines s).drop (a - 1)).take (z + 1 - a)).map stripCR).zipIdx a).flatMap
          fun (l, i) => lineColumn i ++ l ++ ['\n'])
      ++ List.replicate (4 * (geomOf (bytesOf s) start stop (some (a, z))).endTabs
        + (geomOf (bytesOf s) start stop (some (a, z))).endPad) ' ' ++ strMarkerEnd) := by
  obtain ⟨p1, p2⟩ := cr_premises s start stop (some (a, z)) h2 hlt hstop h0 hs hstart
  exact item_shows_source_lines_cr s start stop isRemoval h1 h2 hlt h0 a z ha hz hmid p1 p2

/-! Non-vacuity of `item_shows_source_lines_cr`: a CR LF text and a region over two of its lines. -/
example :
    let s := "a\r\n\tb <x>\r\ny</x> c\r\nd\r\n".toList
    let g := geomOf (bytesOf s) 6 16 (some (2, 3))
    (bytesOf s)[0]? ≠ some NL ∧ crThenNlB (charsOf g.mid) = true ∧ (charsOf g.mid).getLast? ≠ some '\n' ∧
    (charsOf g.pre).getLast? ≠ some '\r' ∧ charsOf g.mid = "<x>\r\ny</x>".toList ∧
    (((srcLines s).drop (2 - 1)).take (3 + 1 - 2)).map stripCR = ["\tb <x>".toList, "y</x> c".toList] := by
  intro s; rw [show s = _ from String.toList_ofList]
  decide_lit

/-! and that text satisfies the premise of `item_shows_source_lines_crlf` -/
example : crThenNlB "a\r\n\tb <x>\r\ny</x> c\r\nd\r\n".toList = true := by decide_lit

end Chiritori.Props.C16
