import Chiritori.Lemmas.DecideLit
import Chiritori.Lemmas.ListTotal
import Chiritori.Lemmas.Laminar
/-
  C17 — list_all = Ready regions + outstanding Pending regions, once each, in order.

  With R the regions of `list` (= what `clean` deletes) and P the merged regions of the registered, non-skipped
  elements whose condition does not hold (`pendingMarkers`; a pending region inside a larger default-strategy
  pending region is merged into it by `merge_markers`), `list_all` is every region of R, flagged Ready, in order
  (identical to `list`), and every region of P that no ready region swallows, flagged Pending, in order; the two are
  interleaved in source order under the nesting hypothesis `Laminar` (a pending region that is not swallowed and starts
  before a ready region ends starts no later than that region).  R and P are each sorted and disjoint, and P covers
  exactly the extents of the pending elements, for every source.
  In the space the property quantifies over - no tag on a wrapper line of an unwrappable unwrap-block, `WrapFree`
  (decidable form `wrapFreeB`) - the nesting hypothesis holds, R and P are given item by item (`refRegions`), and
  `c17` is the whole statement.  Outside that space the order clause is false of the code (kernel-evaluated witness
  `srcBad`: a pending element starting on the opening wrapper line of a ready unwrap-block is listed before the ready
  part it starts in); the property does not quantify over it.
-/
namespace Chiritori.Props.C17
open Chiritori Chiritori.Spec

def readyMarkers (src ds de : List Char) (cfg : Cfg) : List Marker :=
  buildRemoveMarker cfg (bytesOf src) (parseSource src ds de)

def pendingMarkers (src ds de : List Char) (cfg : Cfg) : List Marker :=
  mergeMarkers (collect cfg (bytesOf src) true (parseSource src ds de)).2 []

theorem listAll_eq (src ds de : List Char) (cfg : Cfg) :
    listAllMarkers src ds de cfg = mergePending (readyMarkers src ds de cfg) (pendingMarkers src ds de cfg) := by
  unfold listAllMarkers buildRemoveMarkerAll readyMarkers pendingMarkers buildRemoveMarker
  rw [← collect_ready_indep]

/-- every Ready region exactly once, identical to the plain list -/
theorem ready_items (src ds de : List Char) (cfg : Cfg) :
    (listAllMarkers src ds de cfg).filter (·.2) = listMarkers src ds de cfg := by
  rw [listAll_eq, mergePending_ready]
  rfl

/- The theorems of this section only combine facts about `MSorted` and `StartsSorted`; the two are sealed, or else
   each step, to see what kind of proposition `MSorted (readyMarkers ..) ..` is, unfolds the whole of
   `build_remove_marker`. -/
section
attribute [local irreducible] MSorted StartsSorted

theorem regions_sorted (src ds de : List Char) (cfg : Cfg) (hde : de ≠ []) :
    MSorted (readyMarkers src ds de cfg) 0 (blen src) ∧ MSorted (pendingMarkers src ds de cfg) 0 (blen src) :=
  ⟨(buildRemoveMarker_spec src ds de cfg hde).1, (pending_facts src ds de cfg hde).1⟩

/-- the pending regions cover exactly the extents of the elements that are registered, not skipped and whose
    condition does not hold (for an unwrap-block: its two parts; nothing when it cannot be unwrapped) -/
theorem pending_cover (src ds de : List Char) (cfg : Cfg) (hde : de ≠ []) :
    ∀ i, mcov (pendingMarkers src ds de cfg) i ↔
      inAny (pendingExtents cfg (bytesOf src) (parseSource src ds de)) i = true :=
  (pending_facts src ds de cfg hde).2.2

/-- the Pending items: the pending regions not lying wholly inside a Ready region, in order -/
theorem pending_items (src ds de : List Char) (cfg : Cfg) (hde : de ≠ []) :
    (listAllMarkers src ds de cfg).filter (fun x => !x.2) =
      ((pendingMarkers src ds de cfg).filter fun p => !swallowed (readyMarkers src ds de cfg) p).map fun p => (p, false) := by
  obtain ⟨h1, h2⟩ := regions_sorted src ds de cfg hde
  rw [listAll_eq]
  exact mergePending_pending _ _ 0 (blen src) 0 (blen src) h1 h2

def Laminar (ready pending : List Marker) : Prop :=
  ∀ r ∈ ready, ∀ p ∈ pending, p.start < r.stop → squashes r p = false → p.start ≤ r.start

theorem items_sorted (src ds de : List Char) (cfg : Cfg) (hde : de ≠ [])
    (hl : Laminar (readyMarkers src ds de cfg) (pendingMarkers src ds de cfg)) :
    StartsSorted (listAllMarkers src ds de cfg) 0 := by
  obtain ⟨h1, h2⟩ := regions_sorted src ds de cfg hde
  rw [listAll_eq]
  exact mergePending_sorted _ _ 0 (blen src) 0 (blen src) 0 h1 h2 (Nat.le_refl _) (fun _ _ => Nat.zero_le _) hl

/-- in a document without tags on wrapper lines (the C15 space) the two region lists are laminar -/
theorem laminar_of_wrapFree (src ds de : List Char) (cfg : Cfg) (hde : de ≠ [])
    (hw : WrapFree (bytesOf src) (parseSource src ds de)) :
    Laminar (readyMarkers src ds de cfg) (pendingMarkers src ds de cfg) := by
  have hl := collect_lam cfg (bytesOf src) _ 0 (blen src) (parseSource_span src ds de hde) (by simp) hw
  rw [collect_ready_indep] at hl
  intro r hr p hp h1 h2
  refine hl (r.start, r.stop) (List.mem_map_of_mem hr) (p.start, p.stop) (List.mem_map_of_mem hp) h1 fun hc => ?_
  simp [squashes, hc.1, hc.2.1, hc.2.2.1, hc.2.2.2] at h2

/-- C17, order clause: in such a document the items of the full listing appear in source order -/
theorem items_sorted_wrapFree (src ds de : List Char) (cfg : Cfg) (hde : de ≠ [])
    (hw : WrapFree (bytesOf src) (parseSource src ds de)) :
    StartsSorted (listAllMarkers src ds de cfg) 0 :=
  items_sorted src ds de cfg hde (laminar_of_wrapFree src ds de cfg hde hw)

/-- item level: the two region lists are the reference regions of the ready / of the pending elements -/
theorem regions_exact (src ds de : List Char) (cfg : Cfg) (hde : de ≠ [])
    (hw : WrapFree (bytesOf src) (parseSource src ds de)) :
    rangesOf (readyMarkers src ds de cfg) = refRegions (conditionHolds cfg) (bytesOf src) (parseSource src ds de) ∧
    rangesOf (pendingMarkers src ds de cfg) = refRegions (conditionPending cfg) (bytesOf src) (parseSource src ds de) :=
  source_regions_exact src ds de cfg hde hw

/-- C17 in the space it quantifies over (no tag on a wrapper line): the full listing is
    (1) every Ready region exactly once - the plain list - flagged Ready;
    (2) flagged Pending, every region of `pendingMarkers` that no Ready region swallows;
    (3) where the Ready regions are the reference regions of the elements whose condition holds and
        `pendingMarkers` those of the registered, non-skipped elements whose condition does not hold (nothing from
        inside a default-strategy region of the same status; nothing for skip / unregistered / un-unwrappable);
    (4) in source order. -/
theorem c17 (src ds de : List Char) (cfg : Cfg) (hde : de ≠ [])
    (hw : WrapFree (bytesOf src) (parseSource src ds de)) :
    (listAllMarkers src ds de cfg).filter (·.2) = listMarkers src ds de cfg ∧
    (listAllMarkers src ds de cfg).filter (fun x => !x.2) =
      ((pendingMarkers src ds de cfg).filter fun p => !swallowed (readyMarkers src ds de cfg) p).map (fun p => (p, false)) ∧
    rangesOf (readyMarkers src ds de cfg) = refRegions (conditionHolds cfg) (bytesOf src) (parseSource src ds de) ∧
    rangesOf (pendingMarkers src ds de cfg) = refRegions (conditionPending cfg) (bytesOf src) (parseSource src ds de) ∧
    StartsSorted (listAllMarkers src ds de cfg) 0 :=
  ⟨ready_items src ds de cfg, pending_items src ds de cfg hde,
   (regions_exact src ds de cfg hde hw).1, (regions_exact src ds de cfg hde hw).2,
   items_sorted_wrapFree src ds de cfg hde hw⟩

end

theorem filter_map_items (L : List (Marker × Bool)) (q : Bool → Bool) :
    ((L.map fun x => (x.1.start, x.1.stop, x.2)).filter (fun x => q x.2.2)).map (fun x => (x.1, x.2.1)) =
      (L.filter (fun x => q x.2)).map (fun x => (x.1.start, x.1.stop)) := by
  rw [List.filter_map, List.map_map]
  rfl

theorem swallowed_eq (ready : List Marker) (p : Marker) :
    swallowed ready p = swallowedBy (rangesOf ready) (p.start, p.stop) := by
  simp only [swallowed, swallowedBy, rangesOf, List.any_map]
  rfl

theorem rangesOf_filter_swallowed (R P : List Marker) :
    rangesOf (P.filter fun p => !swallowed R p) = (rangesOf P).filter fun p => !swallowedBy (rangesOf R) p := by
  unfold rangesOf
  rw [List.filter_map]
  exact congrArg (List.map _) (List.filter_congr fun p _ => congrArg (!·) (swallowed_eq R p))

theorem startsSortedB_of (L : List (Marker × Bool)) (lo : Nat) (h : StartsSorted L lo) :
    startsSortedB (L.map fun x => (x.1.start, x.1.stop, x.2)) lo = true := by
  induction L generalizing lo with
  | nil => rfl
  | cons a as ih =>
    simp only [List.map_cons, startsSortedB, Bool.and_eq_true, decide_eq_true_eq]
    exact ⟨h.1, ih _ h.2⟩

/-- the predicate the check evaluates on the implementation's output (`Spec.c17Holds`) is a theorem of the model -/
theorem c17Holds_model (src ds de : List Char) (cfg : Cfg) (hde : de ≠ [])
    (hw : wrapFreeB (bytesOf src) (parseSource src ds de) = true) :
    c17Holds src ds de cfg ((listAllMarkers src ds de cfg).map fun x => (x.1.start, x.1.stop, x.2)) = true := by
  obtain ⟨h1, h2, h3, h4, h5⟩ := c17 src ds de cfg hde (wrapFreeB_sound _ _ hw)
  -- as a variable the list cannot be unfolded into `build_remove_marker_all` when `StartsSorted` is matched
  generalize listAllMarkers src ds de cfg = L at h1 h2 h5 ⊢
  unfold c17Holds
  simp only [Bool.and_eq_true, beq_iff_eq]
  refine ⟨⟨?_, ?_⟩, startsSortedB_of _ 0 h5⟩
  · rw [filter_map_items _ fun b => b, h1, ← h3]
    exact List.map_map
  · rw [filter_map_items _ fun b => !b, h2, ← h3, ← h4, List.map_map, ← rangesOf_filter_swallowed]
    rfl

def cfgL : Cfg := ⟨"tl".toList, "rm".toList, 1577836800, 0, "+00:00".toList, ["a".toList]⟩
def srcBad : List Char := "<rm name='a' unwrap-block>\n{ <rm name='b'>\nx\n</rm>\ny\n}\n</rm>\n".toList
def srcGood : List Char := "<rm name='a' unwrap-block>\n{\n<rm name='b'>\nx\n</rm>\ny\n}\n</rm>\n<rm name='b'>\n<rm name='a'>\nz\n</rm>\n</rm>\n".toList
theorem srcBad_listed :
    wrapFreeB (bytesOf srcBad) (parseSource srcBad "<".toList ">".toList) = false ∧
    (listAllMarkers srcBad "<".toList ">".toList cfgL).map (fun x => (x.1.start, x.2))
      = [(29, false), (0, true), (53, true)] := by decide_lit srcBad cfgL
theorem srcGood_listed :
    wrapFreeB (bytesOf srcGood) (parseSource srcGood "<".toList ">".toList) = true ∧
    (listAllMarkers srcGood "<".toList ">".toList cfgL).map (fun x => (x.1.start, x.2))
      = [(0, true), (29, false), (53, true), (61, false), (75, true)] := by decide_lit srcGood cfgL
example : wrapFreeB (bytesOf srcBad) (parseSource srcBad "<".toList ">".toList) = false := srcBad_listed.1
example : (listAllMarkers srcBad "<".toList ">".toList cfgL).map (fun x => (x.1.start, x.2))
    = [(29, false), (0, true), (53, true)] := srcBad_listed.2
example : wrapFreeB (bytesOf srcGood) (parseSource srcGood "<".toList ">".toList) = true := srcGood_listed.1
example : (listAllMarkers srcGood "<".toList ">".toList cfgL).map (fun x => (x.1.start, x.2))
    = [(0, true), (29, false), (53, true), (61, false), (75, true)] := srcGood_listed.2

/-- for any two sorted lists, not only the two of one source -/
theorem merge_facts (ready pending : List Marker) (lo hi lo' hi' : Nat)
    (h1 : MSorted ready lo hi) (h2 : MSorted pending lo' hi') :
    (mergePending ready pending).filter (·.2) = ready.map (fun r => (r, true)) ∧
    (mergePending ready pending).filter (fun x => !x.2) =
      (pending.filter fun p => !swallowed ready p).map fun p => (p, false) :=
  ⟨mergePending_ready ready pending, mergePending_pending ready pending lo hi lo' hi' h1 h2⟩

/-! Kernel-evaluated instance: two pending ranges before a ready one and two inside it (the shape of the D12 witness). -/
def mk (a b : Nat) : Marker := ⟨a, b, none⟩
example : (mergePending [mk 20 40] [mk 0 5, mk 6 9, mk 22 25, mk 30 35, mk 50 60]).map (fun x => (x.1.start, x.2))
    = [(0, false), (6, false), (20, true), (50, false)] := by decide +kernel

end Chiritori.Props.C17
