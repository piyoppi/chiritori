import Chiritori.Lemmas.ScanFinal
import Chiritori.Props.C08Wide
import Chiritori.Props.C08Source
/-
  C08, two regions where the property holds that are stated without reference to the automaton.

  * `c08_wellDelimited_partial`: for any non-empty delimiters, on every source that is a sequence of
    *well-delimited pieces* - text pieces free of the first character of the start delimiter, and tags
    `ds ++ b0 :: rest ++ de` whose body after its first character is free of the first character of the end
    delimiter - the tokenizer's kinds and values are exactly those of the textbook leftmost-shortest scan.
    This is the shape of every document the AST generator renders (C18, C19).
  * `c08_single_char`: for single-character delimiters the property holds for *every* source.
  Both are instances of `c08_wide` / `c08_source`.
  Missing from full strength (known finding D4): multi-character delimiters on sources in which a failed partial
  match overlaps a real occurrence of a delimiter.
-/
namespace Chiritori.Props.C08
open Chiritori Chiritori.Spec

theorem c08_wellDelimited_partial (d0 : Char) (dr : List Char) (e0 : Char) (er : List Char) (ps : List Piece)
    (hok : ∀ p ∈ ps, p.ok d0 e0) :
    c08Holds (renderAll (d0 :: dr) (e0 :: er) ps) (d0 :: dr) (e0 :: er)
      (tokenize (renderAll (d0 :: dr) (e0 :: er) ps) (d0 :: dr) (e0 :: er)) = true :=
  c08_wide d0 dr e0 er ps (wideOK_of_ok d0 dr e0 er ps [] hok nofun)

theorem findSub_single_none {p : Char} : ∀ {s : List Char}, findSub [p] s = none → ∀ c ∈ s, c ≠ p
  | [], _, _, hc => nomatch hc
  | a :: as, h, c, hc => by
    obtain ⟨hpre, hn⟩ := findSub_cons_eq_none.1 h
    rcases List.mem_cons.1 hc with rfl | hc
    · rintro rfl
      simp [List.isPrefixOf] at hpre
    · exact findSub_single_none hn c hc

theorem findSub_single_some {p : Char} : ∀ {s : List Char} {i : Nat}, findSub [p] s = some i → ∀ c ∈ s.take i, c ≠ p
  | [], _, _, _, hc => by simp at hc
  | a :: as, i, h, c, hc => by
    by_cases hpre : [p].isPrefixOf (a :: as) = true
    · simp only [findSub, hpre, ite_true, Option.some.injEq] at h
      simp [← h] at hc
    · rw [findSub_cons_of_not_prefix (Bool.eq_false_iff.2 hpre)] at h
      obtain ⟨k, hk, rfl⟩ := Option.map_eq_some_iff.1 h
      rcases List.mem_cons.1 hc with rfl | hc
      · rintro rfl
        simp [List.isPrefixOf] at hpre
      · exact findSub_single_some hk c hc

/-- With single-character delimiters a stretch in which the textbook scan finds no complete tag - no `d`, or `d` at
    the very end, or no `e` behind the first body character - is one on which the automaton completes none. -/
theorem tailFit_single (d e : Char) (u : List Char) (h : noTagTB [d] [e] u = true) : tailFit [d] [e] u = true := by
  rw [tailFit, h, Bool.and_true]
  unfold noTagTB at h
  cases hf : findSub [d] u with
  | none =>
    have := noElem_text_free d [] [e] [] u (findSub_single_none hf)
    rwa [List.append_nil] at this
  | some i =>
    rw [findSub_spec [d] u i hf, noElem_text_free d [] [e] _ _ (findSub_single_some hf), List.singleton_append, noElem,
      getState_text_snd, checkDelimiterStart_self]
    rw [hf] at h
    cases hd : u.drop (i + [d].length) with
    | nil => rfl
    | cons b0 body =>
      simp only [hd, Option.isNone_iff_eq_none] at h
      rw [noElem, getState_dstart_nil]
      exact noElem_inDelim_free [d] e [] body (findSub_single_none h)

theorem fitsSource_single (d e : Char) : ∀ (fuel : Nat) (s : List Char), s.length ≤ fuel →
    wideOK2 [d] [e] (decompose [d] [e] fuel s).2 (decompose [d] [e] fuel s).1 [] = true
  | 0, s, h => by
    rw [List.eq_nil_of_length_eq_zero (Nat.le_zero.1 h)]
    rfl
  | fuel + 1, s, h => by
    -- wherever `decompose` stops, it does so because the textbook scan finds no tag in what is left
    have hstop : noTagTB [d] [e] s = true → wideOK2 [d] [e] s [] [] = true := tailFit_single d e s
    simp only [decompose]
    cases hf : findSub [d] s with
    | none => exact hstop (by simp only [noTagTB, hf])
    | some i =>
      simp only
      cases hd : s.drop (i + [d].length) with
      | nil => exact hstop (by simp only [noTagTB, hf, hd])
      | cons b0 body =>
        simp only
        cases hj : findSub [e] body with
        | none => exact hstop (by simp only [noTagTB, hf, hd, hj, Option.isNone_none])
        | some j =>
          have ht := findSub_single_some hf
          have hbody := findSub_single_some hj
          have hlen : (body.drop (j + [e].length)).length ≤ fuel := by
            have hb : body.length + 1 ≤ s.length := by
              rw [← List.length_cons (a := b0), ← hd, List.length_drop]
              exact Nat.sub_le _ _
            rw [List.length_drop]
            exact Nat.le_trans (Nat.sub_le _ _) (Nat.le_of_succ_le_succ (Nat.le_trans hb h))
          simp only [wideOK2, List.nil_append, textFit, bodyFit, Bool.and_eq_true]
          exact ⟨⟨⟨quietT_free d [] _ ht, noOcc_free d [] _ ht⟩, quietE_free e [] _ hbody, noOcc_free e [] _ hbody⟩,
            fitsSource_single d e fuel _ hlen⟩

theorem c08_single_char (d e : Char) (src : List Char) :
    c08Holds src [d] [e] (tokenize src [d] [e]) = true :=
  c08_source d [] e [] src (fitsSource_single d e src.length src (Nat.le_refl _))

end Chiritori.Props.C08
