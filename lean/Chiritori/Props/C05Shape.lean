import Chiritori.Props.C05
/-
  C05, the rejection half stated once and for all: what the (modelled) chrono parser accepts for
  `%Y-%m-%d %H:%M:%S %z` has one shape, and everything of another shape is rejected - so it never makes an
  element ready (`unparseable_never_ready`).

  `accepted_shape`: if `parseFields s = some f` then `s` is
      ws  [sign] digits  '-'  ws digits{1,2}  '-'  ws digits{1,2}  ws digits{1,2}  ':'  ws digits{1,2}  ':'
      ws digits{1,2}  ws  sign digit digit  (':' | ws)*  digit digit
  with nothing behind it (an unsigned year has at most four digits).  Malformed classes of the property as
  corollaries: fewer than two colons, so no time part (`needs_two_colons`); a zone name, a `T` or `/` separator, a
  decimal point (`accepted_alphabet`); an offset that does not begin with a sign or has fewer than four digits
  (`accepted_ends_with_offset`).
-/
namespace Chiritori.Props.C05
open Chiritori Chiritori.Spec

def IsWs (w : List Char) : Prop := ∀ c ∈ w, isWhitespace c = true
def IsDigits (d : List Char) : Prop := d ≠ [] ∧ ∀ c ∈ d, isDigit c = true
def IsSign (c : Char) : Prop := c = '+' ∨ c = '-' ∨ c = '−'

theorem trimStartWs_spec (s : List Char) : ∃ w, s = w ++ trimStartWs s ∧ IsWs w :=
  ⟨s.takeWhile isWhitespace, by rw [trimStartWs_eq_dropWhile, List.takeWhile_append_dropWhile],
    fun c hc => List.all_eq_true.mp List.all_takeWhile c hc⟩

theorem colonOrSpace_spec (s : List Char) : ∃ cs, s = cs ++ colonOrSpace s ∧ ∀ c ∈ cs, c = ':' ∨ isWhitespace c = true :=
  ⟨s.takeWhile _, by rw [colonOrSpace_eq_dropWhile, List.takeWhile_append_dropWhile],
    fun c hc => of_decide_eq_true (List.all_eq_true.mp List.all_takeWhile c hc)⟩

theorem scanDigits_spec (fuel : Nat) (s : List Char) (acc n : Nat) (v n' : Nat) (rest : List Char)
    (h : scanDigits fuel s acc n = (v, n', rest)) :
    ∃ ds, s = ds ++ rest ∧ (∀ c ∈ ds, isDigit c = true) ∧ n' = n + ds.length ∧ ds.length ≤ fuel := by
  fun_induction scanDigits fuel s acc n with
  | case2 fuel c cs acc n hc ih =>
    obtain ⟨ds, e1, e2, e3, e4⟩ := ih h
    exact ⟨c :: ds, by rw [List.cons_append, ← e1], List.forall_mem_cons.mpr ⟨hc, e2⟩,
      by rw [e3, List.length_cons]; omega, Nat.succ_le_succ e4⟩
  | _ =>
    cases h
    exact ⟨[], rfl, nofun, rfl, Nat.zero_le _⟩

theorem scanNumber_spec (s : List Char) (max v : Nat) (rest : List Char) (h : scanNumber s max = some (v, rest)) :
    ∃ ds, s = ds ++ rest ∧ IsDigits ds ∧ ds.length ≤ max := by
  unfold scanNumber at h
  generalize hsd : scanDigits max s 0 0 = r at h
  obtain ⟨v', n', rest'⟩ := r
  obtain ⟨ds, e1, e2, e3, e4⟩ := scanDigits_spec max s 0 0 v' n' rest' hsd
  simp only at h
  split at h
  · cases h
  · rename_i hn
    cases h
    exact ⟨ds, e1, ⟨fun hd => hn (by rw [e3, hd]; rfl), e2⟩, e4⟩

theorem literal_spec (c : Char) (s rest : List Char) (h : literal c s = some rest) : s = c :: rest := by
  cases s with
  | nil => cases h
  | cons d ds =>
    rw [literal] at h
    split at h
    · rename_i hd
      cases h
      rw [hd]
    · cases h

theorem scanOffset_spec (s : List Char) (o : Int) (rest : List Char) (h : scanOffset s = some (o, rest)) :
    ∃ sg h1 h2 cs m1 m2, s = [sg, h1, h2] ++ cs ++ [m1, m2] ++ rest ∧ IsSign sg ∧ isDigit h1 = true ∧
      isDigit h2 = true ∧ (∀ c ∈ cs, c = ':' ∨ isWhitespace c = true) ∧ isDigit m1 = true ∧ isDigit m2 = true := by
  unfold scanOffset at h
  split at h
  · rename_i sg h1 h2 r
    split at h
    · rename_i hc
      obtain ⟨cs, e1, e2⟩ := colonOrSpace_spec r
      split at h
      · rename_i m1 m2 r' hcr
        split at h
        · rename_i hm
          cases h
          refine ⟨sg, h1, h2, cs, m1, m2, ?_, hc.1, hc.2.1, hc.2.2, e2, hm.1, hm.2.2⟩
          rw [hcr] at e1
          rw [e1]
          simp only [List.cons_append, List.nil_append, List.append_assoc]
        · cases h
      · cases h
    · cases h
  · cases h

theorem parseNum2_spec (s : List Char) (v : Nat) (rest : List Char) (h : parseNum2 s = some (v, rest)) :
    ∃ w ds, s = w ++ ds ++ rest ∧ IsWs w ∧ IsDigits ds ∧ ds.length ≤ 2 := by
  obtain ⟨w, e1, e2⟩ := trimStartWs_spec s
  obtain ⟨ds, d1, d2, d3⟩ := scanNumber_spec _ _ _ _ h
  exact ⟨w, ds, by rw [List.append_assoc, ← d1, ← e1], e2, d2, d3⟩

theorem parseYear_spec (s : List Char) (y : Int) (rest : List Char) (h : parseYear s = some (y, rest)) :
    ∃ w sy ds, s = w ++ sy ++ ds ++ rest ∧ IsWs w ∧ IsDigits ds ∧
      ((sy = [] ∧ ds.length ≤ 4) ∨ sy = ['-'] ∨ sy = ['+']) := by
  obtain ⟨w, e1, e2⟩ := trimStartWs_spec s
  -- whichever branch is taken, the result is a `scanNumber` result with the value mapped
  have key : ∀ (r : List Char) (k : Nat) (g : Nat × List Char → Int × List Char), (∀ p, (g p).2 = p.2) →
      (scanNumber r k).map g = some (y, rest) → ∃ ds, r = ds ++ rest ∧ IsDigits ds ∧ ds.length ≤ k := by
    intro r k g hg hm
    obtain ⟨⟨v, r'⟩, hs, hv⟩ := Option.map_eq_some_iff.mp hm
    have : r' = rest := (congrArg Prod.snd hv ▸ hg (v, r')).symm
    exact scanNumber_spec r k v rest (this ▸ hs)
  unfold parseYear at h
  split at h
  · rename_i r hr
    obtain ⟨ds, d1, d2, _⟩ := key r _ _ (fun _ => rfl) h
    exact ⟨w, ['-'], ds, by rw [e1, hr, d1, List.append_assoc, List.append_assoc]; rfl, e2, d2, Or.inr (Or.inl rfl)⟩
  · rename_i r hr
    obtain ⟨ds, d1, d2, _⟩ := key r _ _ (fun _ => rfl) h
    exact ⟨w, ['+'], ds, by rw [e1, hr, d1, List.append_assoc, List.append_assoc]; rfl, e2, d2, Or.inr (Or.inr rfl)⟩
  · obtain ⟨ds, d1, d2, d3⟩ := key _ _ _ (fun _ => rfl) h
    exact ⟨w, [], ds, by rw [List.append_nil, List.append_assoc, ← d1, ← e1], e2, d2, Or.inl ⟨rfl, d3⟩⟩

structure Accepted (s : List Char) : Prop where
  shape : ∃ w0 sy Y w1 M w2 D w3 H w4 Mi w5 S w6 sg h1 h2 cs m1 m2,
    s = w0 ++ sy ++ Y ++ '-' :: (w1 ++ M ++ '-' :: (w2 ++ D ++ (w3 ++ H ++ ':' :: (w4 ++ Mi ++ ':' :: (w5 ++ S ++
          (w6 ++ ([sg, h1, h2] ++ cs ++ [m1, m2]))))))) ∧
    IsWs w0 ∧ IsWs w1 ∧ IsWs w2 ∧ IsWs w3 ∧ IsWs w4 ∧ IsWs w5 ∧ IsWs w6 ∧
    ((sy = [] ∧ Y.length ≤ 4) ∨ sy = ['-'] ∨ sy = ['+']) ∧
    IsDigits Y ∧ IsDigits M ∧ M.length ≤ 2 ∧ IsDigits D ∧ D.length ≤ 2 ∧ IsDigits H ∧ H.length ≤ 2 ∧
    IsDigits Mi ∧ Mi.length ≤ 2 ∧ IsDigits S ∧ S.length ≤ 2 ∧
    IsSign sg ∧ isDigit h1 = true ∧ isDigit h2 = true ∧ (∀ c ∈ cs, c = ':' ∨ isWhitespace c = true) ∧
    isDigit m1 = true ∧ isDigit m2 = true

theorem IsWs.append {a b : List Char} (h1 : IsWs a) (h2 : IsWs b) : IsWs (a ++ b) :=
  List.forall_mem_append.mpr ⟨h1, h2⟩

theorem accepted_shape (s : List Char) (f : Fields) (h : parseFields s = some f) : Accepted s := by
  obtain ⟨s1, s2, s3, s4, s5, s6, s7, s8, s9, s10, hy, hl1, hm, hl2, hd, hh, hl3, hmi, hl4, hs, ho⟩ :=
    parseFields_eq_some h
  obtain ⟨w0, sy, Y, y1, y2, y3, y4⟩ := parseYear_spec _ _ _ hy
  have l1 := literal_spec _ _ _ hl1
  obtain ⟨w1, M, m1', m2', m3', m4'⟩ := parseNum2_spec _ _ _ hm
  have l2 := literal_spec _ _ _ hl2
  obtain ⟨w2, D, d1, d2, d3, d4⟩ := parseNum2_spec _ _ _ hd
  obtain ⟨w3a, t1, t2⟩ := trimStartWs_spec s5
  obtain ⟨w3b, H, hh1, hh2, hh3, hh4⟩ := parseNum2_spec _ _ _ hh
  have l3 := literal_spec _ _ _ hl3
  obtain ⟨w4, Mi, mi1, mi2, mi3, mi4⟩ := parseNum2_spec _ _ _ hmi
  have l4 := literal_spec _ _ _ hl4
  obtain ⟨w5, S, ss1, ss2, ss3, ss4⟩ := parseNum2_spec _ _ _ hs
  obtain ⟨w6a, u1, u2⟩ := trimStartWs_spec s10
  obtain ⟨w6b, u3, u4⟩ := trimStartWs_spec (trimStartWs s10)
  obtain ⟨sg, h1, h2, cs, mm1, mm2, o1, o2, o3, o4, o5, o6, o7⟩ := scanOffset_spec _ _ _ ho
  refine ⟨⟨w0, sy, Y, w1, M, w2, D, w3a ++ w3b, H, w4, Mi, w5, S, w6a ++ w6b, sg, h1, h2, cs, mm1, mm2,
    ?_, y2, m2', d2, t2.append hh2, mi2, ss2, u2.append u4, y4, y3, m3', m4', d3, d4, hh3, hh4,
    mi3, mi4, ss3, ss4, o2, o3, o4, o5, o6, o7⟩⟩
  rw [y1, l1, m1', l2, d1, t1, hh1, l3, mi1, l4, ss1, u1, u3, o1]
  simp only [List.append_assoc, List.append_nil]

/-- the rejection half of C05 in one statement: a `to` value (with the configured offset appended) that does not
    have the accepted shape never makes the element ready -/
theorem not_accepted_never_ready (cfg : Cfg) (el : Element) (v : List Char) (hv : attrValue el "to" = some v)
    (h : ¬ Accepted (v ++ ' ' :: cfg.offset)) : timeIsRemoval cfg el = false := by
  apply unparseable_never_ready cfg el v hv
  rw [List.append_assoc]
  cases hp : parseFields (v ++ ' ' :: cfg.offset) with
  | none => rw [chronoParse, List.singleton_append, hp]; rfl
  | some f => exact absurd (accepted_shape _ f hp) h

theorem count_ws_colon (w : List Char) (hw : IsWs w) : w.count ':' = 0 :=
  List.count_eq_zero.mpr fun hm => absurd (hw _ hm) (by decide)

theorem count_digits_colon (d : List Char) (hd : ∀ c ∈ d, isDigit c = true) : d.count ':' = 0 :=
  List.count_eq_zero.mpr fun hm => absurd (hd _ hm) (by decide)

theorem two_le_count (a : Char) (A B C : List Char) : 2 ≤ (A ++ a :: (B ++ a :: C)).count a := by
  rw [List.count_append, List.count_cons_self, List.count_append, List.count_cons_self]
  omega

/-- fewer than two colons (a missing time part): rejected -/
theorem needs_two_colons (s : List Char) (h : s.count ':' < 2) : ¬ Accepted s := by
  intro hs
  obtain ⟨w0, sy, Y, w1, M, w2, D, w3, H, w4, Mi, w5, S, w6, sg, h1, h2, cs, m1, m2, hs, -⟩ := hs.shape
  have e : s = (w0 ++ sy ++ Y ++ '-' :: (w1 ++ M ++ '-' :: (w2 ++ D ++ (w3 ++ H)))) ++ ':' :: ((w4 ++ Mi) ++ ':' ::
      (w5 ++ S ++ (w6 ++ ([sg, h1, h2] ++ cs ++ [m1, m2])))) := by
    rw [hs]; simp only [List.append_assoc, List.cons_append]
  rw [e] at h
  exact absurd (two_le_count ..) (Nat.not_le.mpr h)

def InAlphabet (c : Char) : Prop :=
  isWhitespace c = true ∨ isDigit c = true ∨ c = '+' ∨ c = '-' ∨ c = '−' ∨ c = ':'

/-- the characters of an accepted value are whitespace, digits, signs, `-` and `:` - a zone name (`UTC`, `Z`, `JST`),
    a `T` or `/` separator, a decimal point are all rejected -/
theorem accepted_alphabet (s : List Char) (h : Accepted s) :
    ∀ c ∈ s, isWhitespace c = true ∨ isDigit c = true ∨ c = '+' ∨ c = '-' ∨ c = '−' ∨ c = ':' := by
  obtain ⟨w0, sy, Y, w1, M, w2, D, w3, H, w4, Mi, w5, S, w6, sg, h1, h2, cs, m1, m2, hs, a0, a1, a2, a3, a4, a5, a6, hy,
    ⟨_, dY⟩, ⟨_, dM⟩, _, ⟨_, dD⟩, _, ⟨_, dH⟩, _, ⟨_, dMi⟩, _, ⟨_, dS⟩, _, hsg, dh1, dh2, hcs, dm1, dm2⟩ := h
  have W : ∀ {w}, IsWs w → ∀ c ∈ w, InAlphabet c := fun hw c hm => Or.inl (hw c hm)
  have Dg : ∀ {d : List Char}, (∀ x ∈ d, isDigit x = true) → ∀ c ∈ d, InAlphabet c :=
    fun hd c hm => Or.inr (Or.inl (hd c hm))
  have D1 : ∀ {x : Char}, isDigit x = true → InAlphabet x := fun hx => Or.inr (Or.inl hx)
  have Dash : InAlphabet '-' := Or.inr (Or.inr (Or.inr (Or.inl rfl)))
  have Col : InAlphabet ':' := Or.inr (Or.inr (Or.inr (Or.inr (Or.inr rfl))))
  have Sy : ∀ c ∈ sy, InAlphabet c := by
    rcases hy with ⟨rfl, _⟩ | rfl | rfl
    · nofun
    · exact List.forall_mem_singleton.mpr Dash
    · exact List.forall_mem_singleton.mpr (Or.inr (Or.inr (Or.inl rfl)))
  have Sg : InAlphabet sg := Or.inr (Or.inr (hsg.imp_right fun h => h.imp_right Or.inl))
  have Cs : ∀ c ∈ cs, InAlphabet c := fun c hm => (hcs c hm).elim (fun h => h ▸ Col) Or.inl
  show ∀ c ∈ s, InAlphabet c
  rw [hs]
  simp only [List.forall_mem_append, List.forall_mem_cons]
  exact ⟨⟨⟨W a0, Sy⟩, Dg dY⟩, Dash, ⟨W a1, Dg dM⟩, Dash, ⟨W a2, Dg dD⟩, ⟨W a3, Dg dH⟩, Col, ⟨W a4, Dg dMi⟩, Col,
    ⟨W a5, Dg dS⟩, W a6, ⟨⟨Sg, D1 dh1, D1 dh2, nofun⟩, Cs⟩, D1 dm1, D1 dm2, nofun⟩

/-- an accepted value ends with two digits, preceded (after optional colons / whitespace) by two digits and a sign:
    its last five characters at least are `sign digit digit … digit digit` - an offset such as `+9`, `+0900Z`,
    `0900` or a zone name in the configuration makes every `to` value unparseable -/
theorem accepted_ends_with_offset (s : List Char) (h : Accepted s) :
    ∃ pre sg h1 h2 cs m1 m2, s = pre ++ ([sg, h1, h2] ++ cs ++ [m1, m2]) ∧ IsSign sg ∧ isDigit h1 = true ∧
      isDigit h2 = true ∧ (∀ c ∈ cs, c = ':' ∨ isWhitespace c = true) ∧ isDigit m1 = true ∧ isDigit m2 = true := by
  obtain ⟨w0, sy, Y, w1, M, w2, D, w3, H, w4, Mi, w5, S, w6, sg, h1, h2, cs, m1, m2, hs, _, _, _, _, _, _, _, _,
    _, _, _, _, _, _, _, _, _, _, _, hsg, dh1, dh2, hcs, dm1, dm2⟩ := h
  refine ⟨w0 ++ sy ++ Y ++ '-' :: (w1 ++ M ++ '-' :: (w2 ++ D ++ (w3 ++ H ++ ':' :: (w4 ++ Mi ++ ':' :: (w5 ++ S ++ w6))))),
    sg, h1, h2, cs, m1, m2, ?_, hsg, dh1, dh2, hcs, dm1, dm2⟩
  rw [hs]
  simp only [List.append_assoc, List.cons_append]

theorem not_accepted_of_mem {s : List Char} {c : Char} (hc : c ∈ s) (hn : ¬ InAlphabet c) : ¬ Accepted s :=
  fun h => hn (accepted_alphabet s h c hc)

/-! The classes of rejected spellings named in the property. -/
example : ¬ Accepted "2020-01-01 +00:00".toList := needs_two_colons _ (by decide_lit)
example : ¬ Accepted "2020-01-01T00:00:00 +00:00".toList := not_accepted_of_mem (c := 'T') (by decide_lit) (by decide_lit InAlphabet)
example : ¬ Accepted "2020-01-01 00:00:00 UTC".toList := not_accepted_of_mem (c := 'U') (by decide_lit) (by decide_lit InAlphabet)
example : ¬ Accepted "2020/01/01 00:00:00 +00:00".toList := not_accepted_of_mem (c := '/') (by decide_lit) (by decide_lit InAlphabet)

end Chiritori.Props.C05
