import Chiritori.Lemmas.DecideLit
import Chiritori.Spec.Holds
/-
  C08 — Tags are recognised wherever they occur (leftmost-shortest delimiter match).

  Full statement: `Statement` (tokenizer = textbook scan on kinds and values, for all sources and all
  non-empty delimiters).  It is FALSE of the current code for every multi-character delimiter
  (known finding D4): `c08_negation_D4` proves the negation on concrete witnesses.
  Proved: the negation on witnesses (here), and the property itself on regions of sources: `c08_wide_tail`
  (Props/C08Tail.lean: pieces that fit the delimiters, up to the end of the document) with its special cases `c08_wide`
  (Props/C08Wide.lean), `c08_source` (Props/C08Source.lean: the same as a condition on the source),
  `c08_single_char` (single-character delimiters, every source) and `c08_wellDelimited_partial` (any delimiters,
  well-delimited sources; both in Props/C08Partial.lean).
-/
namespace Chiritori.Props.C08
open Chiritori Chiritori.Spec

def Statement : Prop :=
  ∀ (src ds de : List Char), ds ≠ [] → de ≠ [] → c08Holds src ds de (tokenize src ds de) = true

/-- D4: a failed partial delimiter match is not restarted. -/
theorem c08_negation_D4 : ¬ Statement := by
  intro h
  have := h "//* <rm a> */x/* </rm> */".toList "/* <".toList "> */".toList (by decide) (by decide)
  revert this
  decide_lit

/-- the same defect for the other multi-character pairs named in the property -/
theorem c08_negation_D4_html :
    c08Holds "<!-- <t>> -->".toList "<!-- <".toList "> -->".toList
      (tokenize "<!-- <t>> -->".toList "<!-- <".toList "> -->".toList) = false := by decide_lit

theorem c08_negation_D4_dashes :
    c08Holds "/// --x-- //".toList "// --".toList "-- //".toList
      (tokenize "/// --x-- //".toList "// --".toList "-- //".toList) = false := by decide_lit

theorem c08_negation_D4_aab :
    c08Holds "aaabxbba".toList "aab".toList "bba".toList
      (tokenize "aaabxbba".toList "aab".toList "bba".toList) = false := by decide_lit

/-- ... while for the same sources the textbook scan does find the tag -/
example : textbook "aaabxbba".toList "aab".toList "bba".toList
    = [(.text, ['a']), (.element, "aabxbba".toList)] := by decide_lit

/-- and single-character delimiters are fine on the analogous input -/
example : c08Holds "<<a>>".toList "<".toList ">".toList (tokenize "<<a>>".toList "<".toList ">".toList) = true := by
  decide_lit

end Chiritori.Props.C08
