import Chiritori.Lemmas.DecideLit
import Chiritori.Props.C08Tail
/-
  C08 as a statement about a SOURCE (not about a piece list somebody hands in): `decompose` cuts a source into pieces and
  a last stretch the way the textbook scan would (leftmost start delimiter, one body character, first end delimiter
  behind it), `decompose_render` says the cut loses nothing, and `fitsSource` - a Boolean function of the source and the
  delimiters - is `wideOK2` of that cut.  `c08_source`: wherever `fitsSource` is true, the tokenizer's kinds and values
  are those of the textbook scan.  The region of known finding D4 in the check of C08 is the complement of this
  predicate (for multi-character delimiters).
-/
namespace Chiritori.Props.C08
open Chiritori Chiritori.Spec

def decompose (ds de : List Char) : Nat → List Char → List Piece × List Char
  | 0, s => ([], s)
  | fuel + 1, s =>
    match findSub ds s with
    | none => ([], s)
    | some i =>
      match s.drop (i + ds.length) with
      | [] => ([], s)
      | b0 :: body =>
        match findSub de body with
        | none => ([], s)
        | some j =>
          ((.text (s.take i) :: .tag b0 (body.take j) :: (decompose ds de fuel (body.drop (j + de.length))).1),
            (decompose ds de fuel (body.drop (j + de.length))).2)

theorem decompose_render (ds de : List Char) : ∀ (fuel : Nat) (s : List Char),
    renderAll ds de (decompose ds de fuel s).1 ++ (decompose ds de fuel s).2 = s
  | 0, s => by simp [decompose, renderAll]
  | fuel + 1, s => by
    simp only [decompose]
    cases hf : findSub ds s with
    | none => simp [renderAll]
    | some i =>
      simp only
      cases hd : s.drop (i + ds.length) with
      | nil => simp [renderAll]
      | cons b0 body =>
        simp only
        cases hj : findSub de body with
        | none => simp [renderAll]
        | some j =>
          simp only [renderAll, Piece.render]
          have ih := decompose_render ds de fuel (body.drop (j + de.length))
          have e1 := findSub_spec ds s i hf
          have e2 := findSub_spec de body j hj
          rw [hd] at e1
          conv => rhs; rw [e1, e2]
          simp only [List.append_assoc, List.cons_append]
          rw [ih]

/-- the source fits the delimiters: its textbook cut into pieces and a last stretch does -/
def fitsSource (ds de src : List Char) : Bool :=
  wideOK2 ds de (decompose ds de src.length src).2 (decompose ds de src.length src).1 []

theorem c08_source (d0 : Char) (dr : List Char) (e0 : Char) (er : List Char) (src : List Char)
    (h : fitsSource (d0 :: dr) (e0 :: er) src = true) :
    c08Holds src (d0 :: dr) (e0 :: er) (tokenize src (d0 :: dr) (e0 :: er)) = true := by
  have := c08_wide_tail d0 dr e0 er _ _ h
  rw [decompose_render] at this
  exact this

/-! instances: real-looking sources fit; the D4 witnesses do not -/
set_option maxRecDepth 32768 in
example : fitsSource "<!-- <".toList "> -->".toList
      "<!DOCTYPE html>\n<div>\n  <!-- plain -->\n  <!-- <time-limited to='2024/01/01 00:00:00'> -->\n  <p>a < b</p>\n  <!-- </time-limited> -->\n</div>\n".toList = true ∧
    fitsSource "/* <".toList "> */".toList "// x\nlet y = a / b; /* note */\n/* <removal-marker name='f'> */\nold();\n/* </removal-marker> */\n".toList = true ∧
    fitsSource "<!-- <".toList "> -->".toList "cut off <!-- <time-limited to='20".toList = true ∧
    fitsSource "/* <".toList "> */".toList "//* <rm a> */x/* </rm> */".toList = false ∧
    fitsSource "<!-- <".toList "> -->".toList "<!-- <t>> -->".toList = false ∧
    fitsSource "aab".toList "bba".toList "aaabxbba".toList = false := by decide_lit

end Chiritori.Props.C08
