import Chiritori.Lemmas.DecideLit
import Chiritori.Lemmas.Induction
import Chiritori.Props.C14
import Chiritori.Props.C04
import Chiritori.Lemmas.RelParse
import Chiritori.Props.C19
/-
  C19, first clause, for default-strategy removals in well-delimited sources: cleaning the output again with the
  same configuration changes nothing.

  `idempotent_default`: let the source be a sequence of well-delimited pieces (text free of the first character of
  the start delimiter, tag bodies free of the first character of the end delimiter after their first character -
  every document the AST generator renders; `c08_wellDelimited_partial`), let the start delimiter begin and the end
  delimiter end with a non-whitespace character, and let no element whose condition holds carry `unwrap-block`.
  Then `clean (clean src) = clean src`.

  The proof refines the removal from bytes to tokens to the forest: the ready extents cover whole tokens, exactly
  those of the elements whose condition holds (`prune_tokens`); the text after removal is the concatenation of the
  surviving tokens (`minusFrom_tokens`); the seams are token boundaries (`koffTo_covered`), so whitespace tidying
  never reaches into a tag (`coresKept_of_anchored`, a tag being its own trimmed core) and the output is again a
  well-delimited text with the same tags (`pieces_after`) - this much is `clean_core`, for any chain of tokens that
  the extents cover wholly or not at all, so that it also serves when blocks are unwrapped (Props/C19Unwrap.lean);
  the same tags in the same order parse to the same element skeleton (`skel_congr`), which is the skeleton of the
  pruned forest because removals create no new pairings (`parse_pruned`); the pruned forest has no element whose
  condition holds, so nothing is ready in the output and cleaning it is the identity (C04) - `idem_of_forest`.
-/
namespace Chiritori.Props.C19
open Chiritori Chiritori.Spec

/-- `Chiritori.format_anchored` with the line starts taken wholesale: either no seam is paired, so that there are no
    block ranges, or every position behind a line break is among `bnds` -/
theorem format_anchored (s1 : List Char) (pos : List (Nat × Option Nat)) (o : Bytes)
    (hf : format (bytesOf s1) pos = .ok o) (bnds : List Nat) (hb : ∀ p ∈ pos, p.1 = 0 ∨ p.1 ∈ bnds)
    (hnl : (∀ p ∈ pos, p.2 = none) ∨ ∀ ls, 0 < ls → (bytesOf s1)[ls - 1]? = some NL → ls ∈ bnds) :
    ∃ F, o = minusFrom (bytesOf s1) 0 F ∧ Anchored F (bytesOf s1) bnds 0 ∧
      ∀ d, inAny F d = true → ∃ y, (bytesOf s1)[d]? = some y ∧ isWs y = true := by
  obtain ⟨F, heq, hanch⟩ := Chiritori.format_anchored s1 pos o hf bnds hb fun p hp j _ ls hpj _ h1 _ hls =>
    hnl.elim (fun hnp => by rw [hnp p hp] at hpj; cases hpj) fun h => h ls (Nat.zero_lt_of_lt h1) hls
  refine ⟨F, heq, hanch, fun d hd => ?_⟩
  obtain ⟨a, z, _, h1, h2, _, _, hws, _⟩ := hanch d hd
  exact hws d h1 h2

theorem nl_segEnd (segs : List Bytes) (off k : Nat) (hs : ∀ s ∈ segs, s ≠ [] ∧ (s = [NL] ∨ NL ∉ s))
    (h : segs.flatten[k]? = some NL) : off + k + 1 ∈ segEnds segs off := by
  induction segs generalizing off k with
  | nil => simp at h
  | cons s ss ih =>
    obtain ⟨hne, hshape⟩ := hs s (List.mem_cons_self ..)
    rw [List.flatten_cons] at h
    rw [segEnds, List.mem_cons]
    by_cases hk : k < s.length
    · rw [List.getElem?_append_left hk] at h
      rcases hshape with rfl | hno
      · exact Or.inl (by rw [show k = 0 from Nat.lt_one_iff.mp hk]; rfl)
      · exact absurd (List.mem_of_getElem? h) hno
    · rw [List.getElem?_append_right (Nat.le_of_not_lt hk)] at h
      have := ih (off + s.length) (k - s.length) (fun x hx => hs x (List.mem_cons_of_mem _ hx)) h
      rw [Nat.add_assoc off, Nat.add_sub_cancel' (Nat.le_of_not_lt hk)] at this
      exact Or.inr this

/-- Cleaning seen through any chain of tokens `T` that spells the source, has tokens shaped like those of a
    well-delimited text and is covered by the ready extents wholly or not at all: the output is, piece by piece, the
    tokens that are not covered - tags as they were, texts up to whitespace.  Where blocks are unwrapped their bodies are
    re-indented from each line start on, so every line break that is left has to be a token of its own. -/
theorem clean_core (d0 : Char) (dr : List Char) (e0 : Char) (er : List Char)
    (hd0 : wsChar d0 = false) (hel : ∀ w c, (e0 :: er) = w ++ [c] → wsChar c = false)
    (src : List Char) (cfg : Cfg) (out : List Char) (T : List Token) (hc : ChainFrom T 0 0) (hflat : flat T = src)
    (hW : Wholly (extentsOfSource src (d0 :: dr) (e0 :: er) cfg) T)
    (hshape : ∀ t ∈ T, TokShape d0 e0 (d0 :: dr) (e0 :: er) (t.kind, t.value))
    (hnl : NoReadyUnwrap cfg (parseSource src (d0 :: dr) (e0 :: er)) ∨
      ∀ sg ∈ tokSegs (extentsOfSource src (d0 :: dr) (e0 :: er) cfg) T, sg ≠ [] ∧ (sg = [NL] ∨ NL ∉ sg))
    (h : clean src (d0 :: dr) (e0 :: er) cfg = .ok out) :
    ∃ ps, (∀ p ∈ ps, p.ok d0 e0) ∧ out = renderAll (d0 :: dr) (e0 :: er) ps ∧
      PRel (d0 :: dr) (e0 :: er) ps (T.filter (keepTok (extentsOfSource src (d0 :: dr) (e0 :: er) cfg))) := by
  have hde : (e0 :: er) ≠ [] := by simp
  obtain ⟨s1, hs1, hf⟩ := clean_ok src _ _ cfg out hde h
  obtain ⟨hs, hcov⟩ := buildRemoveMarker_spec src (d0 :: dr) (e0 :: er) cfg hde
  generalize hM : buildRemoveMarker cfg (bytesOf src) (parseSource src (d0 :: dr) (e0 :: er)) = M at hf hs hcov
  generalize extentsOfSource src (d0 :: dr) (e0 :: er) cfg = X at hs1 hcov hW hnl ⊢
  -- what the removal leaves is the concatenation of the tokens that are not covered
  have hK : bytesOf s1 = (tokSegs X T).flatten := by
    rw [hs1, minusRanges_eq_minusFrom, tokSegs_flatten, ← minusFrom_tokens X T 0 0 hc hW, hflat]
  -- `format` is handed the offsets of the markers: each is the end of such a token
  rw [removedPos_koffTo X (bytesOf src) M (blen src) hs (by simp) (fun i => (hcov i).symm)] at hf
  -- so whitespace tidying stays out of the trimmed cores of the tokens
  obtain ⟨F, ho, hanch, hFws⟩ := format_anchored s1 _ _ hf (segEnds (tokSegs X T) 0)
    (by
      intro p hp
      obtain ⟨m, hm, rfl⟩ := List.mem_map.mp hp
      obtain ⟨_, g2, g3⟩ := MSorted_bounds M 0 (blen src) hs m hm
      have := koffTo_covered X T hc hW m.start (hflat ▸ Nat.lt_of_lt_of_le g2 g3) ((hcov _).mp ⟨m, hm, Nat.le_refl _, g2⟩)
      rwa [hflat] at this)
    (by
      refine hnl.imp (fun hnu p hp => ?_) (fun hsg ls hls hb => ?_)
      · obtain ⟨m, hm, rfl⟩ := List.mem_map.mp hp
        rw [← hM] at hm
        exact mergeMarkers_nopair _ [] (collect_nopairs cfg (bytesOf src) _ hnu) (by simp) m hm
      · have := nl_segEnd (tokSegs X T) 0 (ls - 1) hsg (hK ▸ hb)
        rwa [Nat.zero_add, Nat.sub_add_cancel hls] at this)
  rw [hK] at ho hanch hFws
  have hck := coresKept_of_anchored F _ (tokSegs X T) 0 [] rfl rfl hanch
  obtain ⟨ps, q1, q2, _, q4⟩ := pieces_after d0 dr e0 er hd0 hel F _ hFws (T.filter (keepTok X)) 0 [] rfl rfl
    (fun t ht => hshape t (List.mem_filter.mp ht).1) hck
  refine ⟨ps, q1, ?_, q4⟩
  rw [← charsOf_bytesOf out, ho, ← charsOf_bytesOf (renderAll _ _ ps), q2]
  rfl

theorem tokenize_shape (d0 : Char) (dr : List Char) (e0 : Char) (er : List Char) (ps : List Piece)
    (hok : ∀ p ∈ ps, p.ok d0 e0) :
    ∀ t ∈ tokenize (renderAll (d0 :: dr) (e0 :: er) ps) (d0 :: dr) (e0 :: er),
      TokShape d0 e0 (d0 :: dr) (e0 :: er) (t.kind, t.value) := by
  intro t ht
  apply tnorm_shape d0 e0 _ _ ps [] hok (by simp)
  rw [← tokens_tnorm d0 dr e0 er ps hok]
  exact List.mem_map.mpr ⟨t, ht, rfl⟩

/-- what cleaning a well-delimited source with default-strategy removals gives: again a well-delimited text, whose
    pieces are, one by one, the tokens of the pruned forest - the tags as they were, the texts up to whitespace -/
theorem clean_shape (d0 : Char) (dr : List Char) (e0 : Char) (er : List Char)
    (hd0 : wsChar d0 = false) (hel : ∀ w c, (e0 :: er) = w ++ [c] → wsChar c = false)
    (ps : List Piece) (hok : ∀ p ∈ ps, p.ok d0 e0) (cfg : Cfg) (out : List Char)
    (hnu : NoReadyUnwrap cfg (parseSource (renderAll (d0 :: dr) (e0 :: er) ps) (d0 :: dr) (e0 :: er)))
    (h : clean (renderAll (d0 :: dr) (e0 :: er) ps) (d0 :: dr) (e0 :: er) cfg = .ok out) :
    ∃ ps', (∀ p ∈ ps', p.ok d0 e0) ∧ out = renderAll (d0 :: dr) (e0 :: er) ps' ∧
      PRel (d0 :: dr) (e0 :: er) ps' (flattenParts (pruneParts (conditionHolds cfg)
        (parseSource (renderAll (d0 :: dr) (e0 :: er) ps) (d0 :: dr) (e0 :: er)))) := by
  have hde : (e0 :: er) ≠ [] := by simp
  have hsh := tokenize_shape d0 dr e0 er ps hok
  generalize renderAll (d0 :: dr) (e0 :: er) ps = src at h hnu hsh ⊢
  obtain ⟨hT, _⟩ := tokenize_ok src (d0 :: dr) (e0 :: er) hde
  -- the ready extents cover whole tokens, and the tokens they leave are those of the pruned forest
  obtain ⟨hA, hW⟩ := prune_tokens cfg (bytesOf src) (extentsOfSource src (d0 :: dr) (e0 :: er) cfg) _ 0 (blen src)
    (parseSource_span src _ _ hde) hnu (fun i _ _ => by rw [extentsOfSource, readyExtents_eq])
  rw [show flattenParts (parseSource src (d0 :: dr) (e0 :: er)) = _ from parse_flatten _ _ _] at hA hW
  rw [hA]
  exact clean_core d0 dr e0 er hd0 hel src cfg out _ hT.chain hT.flatEq hW hsh (Or.inl hnu) h

mutual
def skelEls : List Skel → List Element
  | [] => []
  | s :: ss => skelEl s ++ skelEls ss
def skelEl : Skel → List Element
  | .tag _ => []
  | .elem el _ _ ch => el :: skelEls ch
end

theorem skelEls_append : ∀ (a b : List Skel), skelEls (a ++ b) = skelEls a ++ skelEls b
  | [], b => by simp [skelEls]
  | s :: ss, b => by simp [skelEls, skelEls_append ss b, List.append_assoc]

theorem elementsOf_skel (parts : List Part) : (elementsOf parts).map (·.1) = skelEls (skelParts parts) := by
  induction parts using parts_induction with
  | nil => rfl
  | text t rest ih =>
    simp only [elementsOf, elementsOfPart, List.nil_append, skelParts, skelPart, skelEls_append, ih]
    split <;> simp [skelEls, skelEl]
  | element el st en ch rest ihc ihr =>
    simp only [elementsOf, elementsOfPart, List.map_append, List.map_cons, skelParts, skelPart, skelEls_append, skelEls,
      skelEl, List.append_nil, ihc, ihr]

theorem elementsOfPart_skel : ∀ (p : Part), (elementsOfPart p).map (·.1) = skelEls (skelPart p) := by
  intro p
  simpa [elementsOf, skelParts] using elementsOf_skel [p]

theorem mem_elementsOf_prune (P : Element → Bool) (parts : List Part) :
    ∀ e ∈ elementsOf (pruneParts P parts), e ∈ elementsOf parts ∧ P e.1 = false := by
  induction parts using parts_induction with
  | nil => intro e he; simp [pruneParts, elementsOf] at he
  | text t rest ih => exact ih
  | element el st en ch rest ihc ihr =>
    intro e he
    simp only [pruneParts, prunePart, elementsOf_append, List.mem_append] at he
    simp only [elementsOf, elementsOfPart, List.mem_append, List.mem_cons]
    rcases he with he | he
    · split at he
      · simp [elementsOf] at he
      · rename_i hP
        simp only [elementsOf, elementsOfPart, List.append_nil, List.mem_cons] at he
        rcases he with rfl | he
        · exact ⟨Or.inl (Or.inl rfl), by simpa using hP⟩
        · exact ⟨Or.inl (Or.inr (ihc e he).1), (ihc e he).2⟩
    · exact ⟨Or.inr (ihr e he).1, (ihr e he).2⟩

theorem elementsOfPart_prune_subset (P : Element → Bool) : ∀ (p : Part),
    ∀ e ∈ elementsOf (prunePart P p), e ∈ elementsOfPart p := by
  intro p e he
  simpa [elementsOf] using (mem_elementsOf_prune P [p] e (by simpa [pruneParts] using he)).1

theorem tagsOf_of_pRel (ds de : List Char) (ps : List Piece) (L : List Token) (h : PRel ds de ps L) :
    tagsOf ds de ps = tagValues L := by
  induction ps generalizing L with
  | nil => cases L with
    | nil => rfl
    | cons t L => exact absurd h (by simp [PRel])
  | cons p ps ih => cases L with
    | nil => cases p <;> exact absurd h (by simp [PRel])
    | cons t L => cases p with
      | text v =>
        obtain ⟨hk, _, h⟩ := h
        simpa [tagsOf, tagValues, hk] using ih L h
      | tag b0 rest =>
        obtain ⟨hk, hv, h⟩ := h
        simpa [tagsOf, tagValues, hk, hv] using ih L h

theorem mem_of_map_fst_eq {α β} {A B : List (α × β)} (h : A.map (·.1) = B.map (·.1)) :
    ∀ e ∈ A, ∃ e' ∈ B, e'.1 = e.1 := by
  intro e he
  have : e.1 ∈ B.map (·.1) := h ▸ List.mem_map.mpr ⟨e, he, rfl⟩
  exact List.mem_map.mp this

theorem elements_of_tags (ds de : List Char) (out : List Char) (G : List Part)
    (htags : tagValues (tokenize out ds de) = tagValues (flattenParts G))
    (hfix : parse ds de (flattenParts G) = G) :
    (elementsOf (parseSource out ds de)).map (·.1) = (elementsOf G).map (·.1) := by
  rw [elementsOf_skel, elementsOf_skel, parseSource, skel_congr ds de _ _ htags, hfix]

theorem idem_of_forest (ds de : List Char) (hds : ds ≠ []) (hde : de ≠ []) (cfg : Cfg) (out : List Char) (G : List Part)
    (htags : tagValues (tokenize out ds de) = tagValues (flattenParts G))
    (hfix : parse ds de (flattenParts G) = G) (hfree : ∀ e ∈ elementsOf G, conditionHolds cfg e.1 = false) :
    clean out ds de cfg = .ok out := by
  apply C04.c04 out ds de cfg hds hde
  rw [nothingReady, extentsOfSource, readyExtents, List.isEmpty_iff, List.flatMap_eq_nil_iff]
  intro e he
  obtain ⟨e', he', hee⟩ := mem_of_map_fst_eq (elements_of_tags ds de out G htags hfix) e he
  obtain ⟨el, st, en⟩ := e
  have : conditionHolds cfg el = false := by rw [← hfree e' he', hee]
  exact if_neg (by simp [this])

/-- C19 (first clause) for default-strategy removals in well-delimited sources -/
theorem idempotent_default (d0 : Char) (dr : List Char) (e0 : Char) (er : List Char)
    (hd0 : wsChar d0 = false) (hel : ∀ w c, (e0 :: er) = w ++ [c] → wsChar c = false)
    (ps : List Piece) (hok : ∀ p ∈ ps, p.ok d0 e0) (cfg : Cfg) (out : List Char)
    (hnu : NoReadyUnwrap cfg (parseSource (renderAll (d0 :: dr) (e0 :: er) ps) (d0 :: dr) (e0 :: er)))
    (h : clean (renderAll (d0 :: dr) (e0 :: er) ps) (d0 :: dr) (e0 :: er) cfg = .ok out) :
    clean out (d0 :: dr) (e0 :: er) cfg = .ok out := by
  obtain ⟨ps', q1, rfl, q4⟩ := clean_shape d0 dr e0 er hd0 hel ps hok cfg out hnu h
  exact idem_of_forest _ _ (by simp) (by simp) cfg _ (pruneParts (conditionHolds cfg) (parseSource _ _ _))
    (by rw [tagValues_render d0 dr e0 er ps' q1, tagsOf_of_pRel _ _ _ _ q4]) (parse_pruned _ _ _ _)
    (fun e he => (mem_elementsOf_prune _ _ e he).2)

/-! Non-vacuity: a concrete well-delimited source with a ready element (inside a pending one) meets every premise. -/
def exPs : List Piece :=
  [.text "a\n".toList, .tag 'r' "m name='b'".toList, .text "\n  ".toList, .tag 't' "l to='2000-01-01 00:00:00'".toList,
   .text "\n  x\n  ".toList, .tag '/' "tl".toList, .text "\ny\n".toList, .tag '/' "rm".toList, .text "\nz\n".toList]
def exCfg : Cfg := ⟨"tl".toList, "rm".toList, 1577836800, 0, "+00:00".toList, ["a".toList]⟩

theorem noReadyUnwrapB_sound' (cfg : Cfg) (parts : List Part) (h : noReadyUnwrapB cfg parts = true) :
    NoReadyUnwrap cfg parts := by
  intro e he hc
  simp only [noReadyUnwrapB, List.all_eq_true] at h
  have := h e he
  simp only [hc, Bool.not_true, Bool.false_or, Bool.not_eq_true'] at this
  exact this

def okB (d0 e0 : Char) : Piece → Bool
  | .text s => s.all (· != d0)
  | .tag _ rest => rest.all (· != e0)

theorem okB_sound (d0 e0 : Char) (p : Piece) (h : okB d0 e0 p = true) : p.ok d0 e0 := by
  cases p with
  | text s =>
    simp only [okB, List.all_eq_true, bne_iff_ne, ne_eq] at h
    exact h
  | tag b0 rest =>
    simp only [okB, List.all_eq_true, bne_iff_ne, ne_eq] at h
    exact h

theorem all_okB_sound (d0 e0 : Char) (ps : List Piece) (h : ps.all (okB d0 e0) = true) : ∀ p ∈ ps, p.ok d0 e0 :=
  fun p hp => okB_sound d0 e0 p (List.all_eq_true.mp h p hp)

/-- the premises of `idempotent_default` for this document in their decidable forms, and what cleaning it gives: one
    evaluation, in which the tokens and the forest of the document are computed once -/
theorem exPs_checks :
    exPs.all (okB '<' '>') = true ∧
    noReadyUnwrapB exCfg (parseSource (renderAll "<".toList ">".toList exPs) "<".toList ">".toList) = true ∧
    (clean (renderAll "<".toList ">".toList exPs) "<".toList ">".toList exCfg).toOption =
      some "a\n<rm name='b'>\ny\n</rm>\nz\n".toList := by
  decide_lit exPs exCfg

example : (∀ p ∈ exPs, p.ok '<' '>') ∧ wsChar '<' = false ∧
    NoReadyUnwrap exCfg (parseSource (renderAll "<".toList ">".toList exPs) "<".toList ">".toList) ∧
    (match clean (renderAll "<".toList ">".toList exPs) "<".toList ">".toList exCfg with
      | .ok o => o == "a\n<rm name='b'>\ny\n</rm>\nz\n".toList
      | .error _ => false) = true := by
  refine ⟨all_okB_sound _ _ _ exPs_checks.1, rfl, noReadyUnwrapB_sound' _ _ exPs_checks.2.1, ?_⟩
  -- the result put in place of the run: any other step on the `match` makes the kernel unfold it and run `clean` again
  rw [C02.ok_of_toOption exPs_checks.2.2]
  exact beq_self_eq_true _

/-! Non-vacuity of `compose_default`: two configurations, the later one removes more (a newly expired marker and a
    newly targeted one); every premise holds and the three runs succeed, the first one leaving work for the second. -/
def exPs2 : List Piece :=
  [.text "a\n".toList, .tag 't' "l to='2001-01-01 00:00:00'".toList, .text "\n  x\n".toList, .tag '/' "tl".toList,
   .text "\nm\n".toList, .tag 't' "l to='2003-01-01 00:00:00'".toList, .text " y ".toList, .tag '/' "tl".toList,
   .text "\n".toList, .tag 'r' "m name='b'".toList, .text "k".toList, .tag '/' "rm".toList, .text "\nz\n".toList]
def exC1 : Cfg := ⟨"tl".toList, "rm".toList, 1009843200, 0, "+00:00".toList, []⟩
def exC2 : Cfg := ⟨"tl".toList, "rm".toList, 1072915200, 0, "+00:00".toList, ["b".toList]⟩

def outIs (r : Except Panic (List Char)) (s : String) : Bool :=
  match r with
  | .ok o => o == s.toList
  | .error _ => false

theorem outIs_iff (r : Except Panic (List Char)) (s : String) : outIs r s = true ↔ r.toOption = some s.toList := by
  cases r <;> simp [outIs, Except.toOption]

/-- the premises of `compose_default` for this document in their decidable forms, and the two runs: one evaluation -/
theorem exPs2_checks :
    exPs2.all (okB '<' '>') = true ∧
    noReadyUnwrapB exC2 (parseSource (renderAll "<".toList ">".toList exPs2) "<".toList ">".toList) = true ∧
    (clean (renderAll "<".toList ">".toList exPs2) "<".toList ">".toList exC1).toOption =
      some "a\nm\n<tl to='2003-01-01 00:00:00'> y </tl>\n<rm name='b'>k</rm>\nz\n".toList ∧
    (clean (renderAll "<".toList ">".toList exPs2) "<".toList ">".toList exC2).toOption = some "a\nm\n\nz\n".toList := by
  decide_lit exPs2 exC1 exC2

theorem exPs2_cleaned :
    outIs (clean (renderAll "<".toList ">".toList exPs2) "<".toList ">".toList exC2) "a\nm\n\nz\n" = true :=
  (outIs_iff _ _).mpr exPs2_checks.2.2.2

example : CfgLe exC1 exC2 ∧ (∀ p ∈ exPs2, p.ok '<' '>') ∧
    NoReadyUnwrap exC2 (parseSource (renderAll "<".toList ">".toList exPs2) "<".toList ">".toList) ∧
    outIs (clean (renderAll "<".toList ">".toList exPs2) "<".toList ">".toList exC1)
      "a\nm\n<tl to='2003-01-01 00:00:00'> y </tl>\n<rm name='b'>k</rm>\nz\n" = true ∧
    outIs (clean (renderAll "<".toList ">".toList exPs2) "<".toList ">".toList exC2) "a\nm\n\nz\n" = true := by
  -- the configurations unfolded first: comparing them folded makes `rfl` decode their string literals
  refine ⟨by unfold exC1 exC2; exact ⟨rfl, rfl, rfl, Or.inl (by decide), fun t ht => by cases ht⟩,
    all_okB_sound _ _ _ exPs2_checks.1, noReadyUnwrapB_sound' _ _ exPs2_checks.2.1,
    (outIs_iff _ _).mpr exPs2_checks.2.2.1, exPs2_cleaned⟩

end Chiritori.Props.C19
