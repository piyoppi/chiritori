import Chiritori.Lemmas.DecideLit
import Chiritori.Lemmas.UnwrapShape
import Chiritori.Props.C19Idem
/-
  C19, first clause, with unwrapped blocks: for a well-delimited source without stray tags, whose tags contain no line
  break, in which every ready unwrap-block can be unwrapped and has no tag on its wrapper lines, cleaning the output
  again with the same configuration changes nothing.  (Without "no stray tags" this is false: known finding D19.)
-/
namespace Chiritori.Props.C19
open Chiritori Chiritori.Spec

/-- what the formatting pass deletes, block ranges included: whitespace, in runs that touch a seam or a line start -/
theorem format_anchored_u (s1 : List Char) (pos : List (Nat × Option Nat)) (o : Bytes)
    (hf : format (bytesOf s1) pos = .ok o) (bnds : List Nat)
    (hb : ∀ p ∈ pos, p.1 = 0 ∨ p.1 ∈ bnds)
    (hnl : ∀ ls, 0 < ls → (bytesOf s1)[ls - 1]? = some NL → ls ∈ bnds) :
    ∃ F, o = minusFrom (bytesOf s1) 0 F ∧ Anchored F (bytesOf s1) bnds 0 ∧
      ∀ d, inAny F d = true → ∃ y, (bytesOf s1)[d]? = some y ∧ isWs y = true :=
  format_anchored s1 pos o hf bnds hb (Or.inr hnl)

theorem tagValues_split_filter (X : List Rng) (T : List Token) :
    tagValues ((splitToks T).filter (keepTok X)) = tagValues (T.filter (keepTok X)) := by
  unfold tagValues
  rw [List.filter_filter, List.filter_filter]
  have h1 : ∀ (L : List Token), L.filter (fun t => decide (t.kind = .element) && keepTok X t) =
      (L.filter (fun t => t.kind = .element)).filter (keepTok X) := by
    intro L
    rw [List.filter_filter]
    congr 1
    funext t
    rw [Bool.and_comm]
  rw [h1, h1, splitToks_tags]

/-- what cleaning a well-delimited source whose tags contain no line break gives, unwrapped blocks included: again a
    well-delimited text, whose tags are the tags of the source that no ready extent covers, in order -/
theorem clean_shape_u (d0 : Char) (dr : List Char) (e0 : Char) (er : List Char)
    (hd0 : wsChar d0 = false) (hel : ∀ w c, (e0 :: er) = w ++ [c] → wsChar c = false)
    (ps : List Piece) (hok : ∀ p ∈ ps, p.ok d0 e0) (cfg : Cfg) (out : List Char)
    (htag : ∀ t ∈ tokenize (renderAll (d0 :: dr) (e0 :: er) ps) (d0 :: dr) (e0 :: er), t.kind = .element →
      ∀ c ∈ t.value, c ≠ '\n')
    (h : clean (renderAll (d0 :: dr) (e0 :: er) ps) (d0 :: dr) (e0 :: er) cfg = .ok out) :
    ∃ ps', (∀ p ∈ ps', p.ok d0 e0) ∧ out = renderAll (d0 :: dr) (e0 :: er) ps' ∧
      tagsOf (d0 :: dr) (e0 :: er) ps' =
        tagValues ((tokenize (renderAll (d0 :: dr) (e0 :: er) ps) (d0 :: dr) (e0 :: er)).filter
          (keepTok (extentsOfSource (renderAll (d0 :: dr) (e0 :: er) ps) (d0 :: dr) (e0 :: er) cfg))) := by
  have hde : (e0 :: er) ≠ [] := by simp
  have hsh := tokenize_shape d0 dr e0 er ps hok
  generalize renderAll (d0 :: dr) (e0 :: er) ps = src at h htag hsh ⊢
  obtain ⟨hT, _⟩ := tokenize_ok src (d0 :: dr) (e0 :: er) hde
  have hW := wholly_split src _ _ cfg hde htag
  generalize tokenize src (d0 :: dr) (e0 :: er) = T at htag hsh hT hW ⊢
  have hcs := splitToks_chain T 0 0 hT.chain
  -- the finer tokens: shaped like the tokens they are cut from, each a single line break or without one
  have hshape : ∀ u ∈ splitToks T, TokShape d0 e0 (d0 :: dr) (e0 :: er) (u.kind, u.value) := by
    intro u hu
    rcases splitToks_mem T u hu with ⟨_, huT⟩ | ⟨hk, _, t, htT, htk, hsub⟩
    · exact hsh u huT
    · have := hsh t htT
      simp only [TokShape, htk, hk] at this ⊢
      exact fun c hc => this c (hsub c hc)
  have hsegs : ∀ sg ∈ tokSegs (extentsOfSource src (d0 :: dr) (e0 :: er) cfg) (splitToks T),
      sg ≠ [] ∧ (sg = [NL] ∨ NL ∉ sg) := by
    intro sg hsg
    obtain ⟨u, hu, rfl⟩ := List.mem_map.mp hsg
    have hum := (List.mem_filter.mp hu).1
    refine ⟨fun hb => ?_, ?_⟩
    · have := blen_pos_of_ne_nil (chain_value_ne_nil _ 0 0 hcs u hum)
      rw [← bytesOf_length, hb] at this
      cases this
    · rcases splitToks_mem T u hum with ⟨hk, huT⟩ | ⟨_, hv | hv, _⟩
      · exact Or.inr fun hm => htag u huT hk '\n' ((lead_mem_bytesOf_iff _ _).mp hm) rfl
      · exact Or.inl (by rw [hv]; decide)
      · exact Or.inr fun hm => hv '\n' ((lead_mem_bytesOf_iff _ _).mp hm) rfl
  obtain ⟨ps', q1, hout, q4⟩ := clean_core d0 dr e0 er hd0 hel src cfg out (splitToks T) hcs
    (by rw [flat_splitToks, hT.flatEq]) hW hshape (Or.inr hsegs) h
  exact ⟨ps', q1, hout, by rw [tagsOf_of_pRel _ _ _ _ q4, tagValues_split_filter]⟩

theorem splice_elements (P : Element → Bool) (parts : List Part) :
    ∀ e ∈ elementsOf (spliceParts P parts), e ∈ elementsOf parts ∧ P e.1 = false := by
  induction parts using parts_induction with
  | nil => intro e he; simp [spliceParts, elementsOf] at he
  | text t rest ih => exact ih
  | element el st en ch rest ihc ihr =>
    intro e he
    simp only [spliceParts, splicePart, elementsOf_append, List.mem_append] at he
    simp only [elementsOf, elementsOfPart, List.mem_append, List.mem_cons]
    rcases he with he | he
    · split at he
      · exact ⟨Or.inl (Or.inr (ihc e he).1), (ihc e he).2⟩
      · rename_i hP
        simp only [elementsOf, elementsOfPart, List.append_nil, List.mem_cons] at he
        rcases he with rfl | he
        · exact ⟨Or.inl (Or.inl rfl), by simpa using hP⟩
        · exact ⟨Or.inl (Or.inr (ihc e he).1), (ihc e he).2⟩
    · exact ⟨Or.inr (ihr e he).1, (ihr e he).2⟩

theorem splicePart_elements (P : Element → Bool) : ∀ (p : Part),
    ∀ e ∈ elementsOf (splicePart P p), e ∈ elementsOfPart p ∧ P e.1 = false := by
  intro p e he
  simpa [elementsOf] using splice_elements P [p] e (by simpa [spliceParts] using he)

theorem noStray_prune (P : Element → Bool) (H : List Part) : NoStray H → NoStray (pruneParts P H) := by
  induction H using parts_induction with
  | nil => exact id
  | text t rest ih => exact fun h => ⟨h.1, ih h.2⟩
  | element el st en ch rest ihc ihr =>
    intro h
    simp only [pruneParts, prunePart]
    split
    · exact ihr h.2
    · exact ⟨⟨h.1.1, h.1.2.1, ihc h.1.2.2⟩, ihr h.2⟩

theorem demoted_nil_of_noStray (ds de : List Char) : ∀ (H : List Part), NoStray H → demotedNames ds de H = []
  | [], _ => rfl
  | .text t :: rest, h => by
    have : elparse ds de t = none := by simp [elparse, show t.kind = .text from h.1]
    simp only [demotedNames, this, List.nil_append]
    exact demoted_nil_of_noStray ds de rest h.2
  | .element _ _ _ _ :: rest, h => demoted_nil_of_noStray ds de rest h.2

theorem bodiesClosed_of_noStray (ds de : List Char) (P : Element → Bool) (H : List Part) :
    NoStray H → BodiesClosed ds de P H := by
  induction H using parts_induction with
  | nil => exact fun _ => trivial
  | text t rest ih => exact fun h => ⟨trivial, ih h.2⟩
  | element el st en ch rest ihc ihr =>
    exact fun h => ⟨⟨fun _ => demoted_nil_of_noStray ds de ch h.1.2.2, ihc h.1.2.2⟩, ihr h.2⟩

theorem bodyClosed_of_noStray (ds de : List Char) (P : Element → Bool) : ∀ (p : Part), NoStrayP p → BodyClosed ds de P p :=
  fun p h => (bodiesClosed_of_noStray ds de P [p] ⟨h, trivial⟩).1

/-- C19 (first clause) with unwrapped blocks -/
theorem idempotent_unwrap (d0 : Char) (dr : List Char) (e0 : Char) (er : List Char)
    (hd0 : wsChar d0 = false) (hel : ∀ w c, (e0 :: er) = w ++ [c] → wsChar c = false)
    (ps : List Piece) (hok : ∀ p ∈ ps, p.ok d0 e0) (cfg : Cfg) (out : List Char)
    (htag : ∀ t ∈ tokenize (renderAll (d0 :: dr) (e0 :: er) ps) (d0 :: dr) (e0 :: er), t.kind = .element →
      ∀ c ∈ t.value, c ≠ '\n')
    (htext : TextsAreText (parseSource (renderAll (d0 :: dr) (e0 :: er) ps) (d0 :: dr) (e0 :: er)))
    (hshape : ReadyShape cfg (bytesOf (renderAll (d0 :: dr) (e0 :: er) ps))
      (parseSource (renderAll (d0 :: dr) (e0 :: er) ps) (d0 :: dr) (e0 :: er)))
    (h : clean (renderAll (d0 :: dr) (e0 :: er) ps) (d0 :: dr) (e0 :: er) cfg = .ok out) :
    clean out (d0 :: dr) (e0 :: er) cfg = .ok out := by
  obtain ⟨ps', q1, rfl, q3⟩ := clean_shape_u d0 dr e0 er hd0 hel ps hok cfg out htag h
  generalize renderAll (d0 :: dr) (e0 :: er) ps = src at htext hshape q3
  have hde : (e0 :: er) ≠ [] := by simp
  have hns := noStray_of_OKS _ _ _ [] (parse_OKS (d0 :: dr) (e0 :: er) _) htext
  -- the forest of the result is the pruned and unwrapped forest: it has its tags, and is a fixed point of parsing
  apply idem_of_forest _ _ (by simp) hde cfg _
    (spliceParts (isUnwrapReady cfg) (pruneParts (isDefaultReady cfg) (parseSource src (d0 :: dr) (e0 :: er))))
  · rw [tagValues_render d0 dr e0 er ps' q1, q3, kept_tagValues src _ _ cfg hde htext hshape]
  · have := parse_unwrapped (d0 :: dr) (e0 :: er) (isUnwrapReady cfg)
      (flattenParts (pruneParts (isDefaultReady cfg) (parseSource src (d0 :: dr) (e0 :: er))))
    rw [parseSource, parse_pruned] at this
    exact this (bodiesClosed_of_noStray _ _ _ _ (noStray_prune _ _ hns))
  · intro e he
    obtain ⟨hin, hnu⟩ := splice_elements _ _ e he
    have hnd := (mem_elementsOf_prune _ _ e hin).2
    rcases ready_cases cfg e.1 with ⟨_, _, h, _⟩ | ⟨_, _, _, h⟩ | ⟨h, _⟩
    · rw [hnu] at h; cases h
    · rw [hnd] at h; cases h
    · exact h

mutual
def textsAreTextB : List Part → Bool
  | [] => true
  | p :: ps => textIsTextB p && textsAreTextB ps
def textIsTextB : Part → Bool
  | .text t => decide (t.kind = .text)
  | .element _ _ _ ch => textsAreTextB ch
end

theorem textsAreTextB_sound : ∀ (H : List Part), textsAreTextB H = true → TextsAreText H := by
  intro H
  induction H using parts_induction with
  | nil => exact fun _ => trivial
  | text t rest ih =>
    intro h
    simp only [textsAreTextB, textIsTextB, Bool.and_eq_true, decide_eq_true_eq] at h
    exact ⟨h.1, ih h.2⟩
  | element el st en ch rest ihc ihr =>
    intro h
    simp only [textsAreTextB, textIsTextB, Bool.and_eq_true] at h
    exact ⟨ihc h.1, ihr h.2⟩

theorem textIsTextB_sound : ∀ (p : Part), textIsTextB p = true → TextIsText p :=
  fun p h => (textsAreTextB_sound [p] (by simpa [textsAreTextB] using h)).1

mutual
def readyShapeB (cfg : Cfg) (b : Bytes) : List Part → Bool
  | [] => true
  | p :: ps => readyShapePB cfg b p && readyShapeB cfg b ps
def readyShapePB (cfg : Cfg) (b : Bytes) : Part → Bool
  | .text _ => true
  | .element el st en ch =>
    (!(conditionHolds cfg el && hasAttr el "unwrap-block") ||
      (match unwrapParts b st en with
       | some (h, t) => (elementsOf ch).all fun e => decide (h.2 ≤ e.2.1.bstart) && decide (e.2.2.bstop < t.1)
       | none => false)) && readyShapeB cfg b ch
end

theorem readyShapeB_sound (cfg : Cfg) (b : Bytes) : ∀ (H : List Part), readyShapeB cfg b H = true → ReadyShape cfg b H := by
  intro H
  induction H using parts_induction with
  | nil => exact fun _ => trivial
  | text t rest ih =>
    intro h
    simp only [readyShapeB, readyShapePB, Bool.true_and] at h
    exact ⟨trivial, ih h⟩
  | element el st en ch rest ihc ihr =>
    intro h
    simp only [readyShapeB, readyShapePB, Bool.and_eq_true, Bool.or_eq_true, Bool.not_eq_eq_eq_not, Bool.not_true] at h
    obtain ⟨⟨h1, h2⟩, h3⟩ := h
    refine ⟨⟨fun hc hu => ?_, ihc h2⟩, ihr h3⟩
    rcases h1 with h1 | h1
    · simp [hc, hu] at h1
    · cases hup : unwrapParts b st en with
      | none => simp [hup] at h1
      | some ht =>
        simp only [hup, List.all_eq_true, Bool.and_eq_true, decide_eq_true_eq] at h1
        exact ⟨ht.1, ht.2, rfl, h1⟩

theorem readyShapePB_sound (cfg : Cfg) (b : Bytes) : ∀ (p : Part), readyShapePB cfg b p = true → ReadyShapeP cfg b p :=
  fun p h => (readyShapeB_sound cfg b [p] (by simpa [readyShapeB] using h)).1

/-- an unwrap-block with a removable child in its body, and a pending element behind it -/
def uwPs : List Piece :=
  [.text "a\n".toList, .tag 't' "l to='2000-01-01 00:00:00' unwrap-block".toList, .text "\nif (x) {\n  keep();\n  ".toList,
   .tag 'r' "m name='a'".toList, .text "gone".toList, .tag '/' "rm".toList, .text "\n  more();\n}\n".toList, .tag '/' "tl".toList,
   .text "\n".toList, .tag 'r' "m name='b'".toList, .text "stay".toList, .tag '/' "rm".toList, .text "\nz\n".toList]
def uwCfg : Cfg := ⟨"tl".toList, "rm".toList, 1577836800, 0, "+00:00".toList, ["a".toList]⟩

def uwSrc : List Char := renderAll "<".toList ">".toList uwPs

/-- the premises of `idempotent_unwrap` for this document, in their decidable forms, and what cleaning it gives: one
    evaluation, in which the tokens and the forest of the document are computed once -/
theorem uw_checks :
    uwPs.all (okB '<' '>') = true ∧
    (tokenize uwSrc "<".toList ">".toList).all (fun t => t.kind != .element || t.value.all (· != '\n')) = true ∧
    textsAreTextB (parseSource uwSrc "<".toList ">".toList) = true ∧
    readyShapeB uwCfg (bytesOf uwSrc) (parseSource uwSrc "<".toList ">".toList) = true ∧
    (clean uwSrc "<".toList ">".toList uwCfg).toOption =
      some "a\nkeep();\nmore();\n<rm name='b'>stay</rm>\nz\n".toList := by
  decide_lit uwSrc uwPs uwCfg

example : ∀ p ∈ uwPs, p.ok '<' '>' := all_okB_sound _ _ _ uw_checks.1

example : ∀ t ∈ tokenize uwSrc "<".toList ">".toList, t.kind = .element → ∀ c ∈ t.value, c ≠ '\n' := by
  intro t ht hk c hc
  have ht' := List.all_eq_true.mp uw_checks.2.1 t ht
  simp only [hk, bne_self_eq_false, Bool.false_or, List.all_eq_true] at ht'
  simpa using ht' c hc

/- The next two are proved as implications from the Boolean forms: given the bare goal, the elaborator evaluates the
   forest of the document in order to unfold the recursive predicate. -/
set_option maxRecDepth 8192 in
example : TextsAreText (parseSource uwSrc "<".toList ">".toList) := by
  have h := uw_checks.2.2.1
  revert h
  exact textsAreTextB_sound _

set_option maxRecDepth 8192 in
example : ReadyShape uwCfg (bytesOf uwSrc) (parseSource uwSrc "<".toList ">".toList) := by
  have h := uw_checks.2.2.2.1
  revert h
  exact readyShapeB_sound _ _ _

example : outIs (clean uwSrc "<".toList ">".toList uwCfg) "a\nkeep();\nmore();\n<rm name='b'>stay</rm>\nz\n" = true :=
  (outIs_iff _ _).mpr uw_checks.2.2.2.2

end Chiritori.Props.C19
