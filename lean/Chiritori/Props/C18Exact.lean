import Chiritori.Lemmas.DecideLit
import Chiritori.Lemmas.Induction
import Chiritori.Props.C18End
import Chiritori.Lemmas.CtxAgree
import Chiritori.Lemmas.SeamIdx
/-
  C18, exactly, for documents without `unwrap-block`: the same piece list rendered under two delimiter pairs is
  cleaned to one and the same piece list, rendered under the respective pair (`respell_exact`) - not only the tags
  and the non-whitespace text (`respell_default`) but every byte of whitespace.

  How: the text after removal is the concatenation of the surviving tokens (`prune_tokens`, `minusFrom_tokens`); the
  seams lie behind the same number of surviving tokens in both texts (`seam_parts`, `Alike.seamIdx`); the range each
  seam formatter deletes is a function of the bytes around the seam (`formatBlock_rel`) and depends on them only
  up to the first character that is not whitespace (`relHull_agree`), where the two texts agree (`ctx_agree`: the
  same texts, and tags that begin and end with a character that is not whitespace); the end points of the ranges
  therefore correspond under the order-preserving correspondence of positions (`rho_left`, `rho_right`, `rho_mono`);
  `merge_overlapped_ranges` only compares end points (`mergeOverlapped_rel`), so the merged ranges correspond and cover
  corresponding bytes of every text token (`inAny_rel`); hence the same bytes are deleted from the same texts.
  All but the last step is done once, for any two spellings that the parser cannot tell apart (`clean_exact_sim`).
-/
namespace Chiritori.Props.C18
open Chiritori Chiritori.Spec Chiritori.Props.C19

def HullsOf (K : Bytes) : List Nat → List Rng' → Prop
  | [], [] => True
  | p :: ps, r :: rs => formatBlock K p seamFormatters (p, p) = .ok r ∧ HullsOf K ps rs
  | [], _ :: _ => False
  | _ :: _, [] => False

theorem formatCollect_hulls (b : Bytes) (all : List (Nat × Option Nat)) : ∀ (ps : List (Nat × Option Nat))
    (rs bs : List Rng'), formatCollect b all ps = .ok (rs, bs) → HullsOf b (ps.map (·.1)) rs
  | [], rs, bs, h => by
    obtain rfl : rs = [] := by simp only [formatCollect, Except.ok.injEq, Prod.mk.injEq] at h; exact h.1.symm
    trivial
  | (pos, pair) :: rest, rs, bs, h => by
    obtain ⟨r, _, rs', bs', h1, _, h2, rfl, _⟩ := (formatCollect_cons_ok b all pos pair rest rs bs).mp h
    exact ⟨h1, formatCollect_hulls b all rest rs' bs' h2⟩

def WsOnly (F : List Rng) (K : Bytes) : Prop := ∀ d, inAny F d = true → ∃ y, K[d]? = some y ∧ isWs y = true

/-- `format` without pairs deletes the merged hulls of its seams; they hold whitespace only, and each of their bytes
    lies in a stretch of whitespace that touches a seam -/
theorem format_explicit (s1 : List Char) (pos : List (Nat × Option Nat)) (o : Bytes)
    (hnp : ∀ p ∈ pos, p.2 = none) (hf : format (bytesOf s1) pos = .ok o) (bnds : List Nat)
    (hb : ∀ p ∈ pos, p.1 = 0 ∨ p.1 ∈ bnds) :
    ∃ ranges, HullsOf (bytesOf s1) (pos.map (·.1)) ranges ∧ o = minusFrom (bytesOf s1) 0 (mergeOverlapped ranges) ∧
      Anchored (mergeOverlapped ranges) (bytesOf s1) bnds 0 ∧ WsOnly (mergeOverlapped ranges) (bytesOf s1) := by
  obtain ⟨ranges, blocks, hfc, m1, _, heq, _⟩ := format_ok s1 pos o hf
  obtain rfl : blocks = [] := formatCollect_noblocks _ pos pos ranges blocks hnp hfc
  rw [mergeRanges_nil] at m1 heq
  obtain ⟨loc1, _⟩ := C14.ranges_local s1 pos pos ranges [] hfc
  refine ⟨ranges, formatCollect_hulls _ pos pos ranges [] hfc, heq, ?_, ?_⟩
  · intro d hd
    obtain ⟨x, hxr, hx1, hx2⟩ := (inAny_iff _ d).mp (C14.merged_subset _ d hd)
    obtain ⟨p, hp, g⟩ := loc1 x hxr
    refine ⟨x.1, x.2, p.1, hx1, hx2, g.le1, g.le2, ?_, (hb p hp).imp_left Nat.le_of_eq⟩
    intro i hi1 hi2
    obtain ⟨y, hy, hyw⟩ := g.ws i hi1 hi2
    exact ⟨y, hy, isWs_of_isWsByte y hyw⟩
  · intro d hd
    obtain ⟨r, hr, hr1, hr2⟩ := (inAny_iff _ d).mp hd
    obtain ⟨y, hy, hyw⟩ := (m1 r hr).ws d hr1 hr2
    exact ⟨y, hy, isWs_of_isWsByte y hyw⟩

structure TokFacts (L L' : List Token) : Prop where
  pairs : TokPairs L L'
  same : SameTexts L L'
  ne : NonEmptyToks L
  ne' : NonEmptyToks L'
  edges : TagEdges L
  kinds : KindsBin L

theorem sameTexts_of_pairs {L L' : List Token} (h : PW TokPair L L') : SameTexts L L' := by
  induction h with
  | nil => exact ⟨rfl, fun m t u h => nomatch h⟩
  | @cons t u L L' htu _ ih =>
    refine ⟨congrArg (· + 1) ih.1, fun m a b ha hb hka => ?_⟩
    cases m with
    | zero =>
      obtain rfl := Option.some.inj ha
      obtain rfl := Option.some.inj hb
      rcases htu with ⟨_, _, hv⟩ | ⟨hke, _⟩
      · rw [hv]
      · rw [hka] at hke; cases hke
    | succ j => exact ih.2 j a b ha hb hka

theorem tagEdges_of_pairs {L L' : List Token} (h : PW TokPair L L') : TagEdges L := by
  induction h with
  | nil => nofun
  | @cons t u L L' htu _ ih =>
    intro x hx hkx
    rcases List.mem_cons.mp hx with rfl | hx
    · rcases htu with ⟨hkt, _⟩ | ⟨_, _, he, _⟩
      · rw [hkx] at hkt; cases hkt
      · obtain ⟨⟨y0, h0, w0⟩, ⟨y1, h1, w1⟩⟩ := edgeOK_bytes _ he
        exact ⟨⟨y0, by rw [← List.head?_eq_getElem?]; exact h0, w0⟩,
          ⟨y1, by rw [← bytesOf_length, ← List.getLast?_eq_getElem?]; exact h1, w1⟩⟩
    · exact ih x hx hkx

theorem tokFacts_of_pairs {L L' : List Token} (h : PW TokPair L L') (hn : NonEmptyToks L) (hn' : NonEmptyToks L') :
    TokFacts L L' :=
  ⟨(tokPairs_iff L L').mpr h, sameTexts_of_pairs h, hn, hn', tagEdges_of_pairs h, kindsBin L⟩

theorem hull_rel (L L' : List Token) (hf : TokFacts L L') (s1 s1' : List Char)
    (hK : bytesOf s1 = toksBytes L) (hK' : bytesOf s1' = toksBytes L') (k : Nat) (hkl : k ≤ L.length) (r r' : Rng')
    (h1 : formatBlock (bytesOf s1) (bnd L k) seamFormatters (bnd L k, bnd L k) = .ok r)
    (h1' : formatBlock (bytesOf s1') (bnd L' k) seamFormatters (bnd L' k, bnd L' k) = .ok r') :
    RelR (Rho L L') r r' := by
  have hp : bnd L k ≤ (bytesOf s1).length := by rw [hK, ← bnd_length]; exact bnd_mono L k _ hkl
  have hp' : bnd L' k ≤ (bytesOf s1').length := by
    rw [hK', ← bnd_length]; exact bnd_mono L' k _ (hf.same.1 ▸ hkl)
  -- both hulls as functions of the contexts, which agree
  obtain ⟨_, good⟩ := formatBlock_good s1 _ r h1
  rw [formatBlock_rel _ _ hp, hK] at h1
  rw [formatBlock_rel _ _ hp', hK'] at h1'
  obtain ⟨cl, cr⟩ := ctx_agree L L' hf.pairs k
  have eh := relHull_agree _ _ _ _ cl cr
  rw [eh] at h1
  cases hh : relHull (ctxL (toksBytes L') (bnd L' k)) (ctxR (toksBytes L') (bnd L' k)) with
  | error e => rw [hh] at h1; simp [Except.map] at h1
  | ok kk =>
    obtain ⟨kl, kr⟩ := kk
    rw [hh] at h1 h1' eh
    simp only [Except.map, Except.ok.injEq] at h1 h1'
    have hklL : kl ≤ bnd L k := by
      have := relHull_le _ _ kl kr eh
      rwa [ctxL_length _ _ (hK ▸ hp)] at this
    subst h1 h1'
    have hws : ∀ i, bnd L k - kl ≤ i → i < bnd L k + kr → ∃ y, (toksBytes L)[i]? = some y ∧ isWs y = true := by
      intro i hi1 hi2
      obtain ⟨y, hy, hyw⟩ := good.ws i hi1 hi2
      exact ⟨y, hK ▸ hy, isWs_of_isWsByte y hyw⟩
    have hr2 : bnd L k + kr ≤ bnd L L.length := by rw [bnd_length, ← hK, bytesOf_length]; exact good.len
    exact ⟨(rho_left L L' hf.ne hf.same hf.edges hf.kinds k kl hkl hklL
        (fun i hi1 hi2 => hws i hi1 (Nat.lt_add_right _ hi2))).1,
      rho_right L L' hf.ne hf.same hf.edges hf.kinds (L.length - k) k kr rfl hkl hr2
        (fun i hi1 hi2 => hws i (Nat.le_trans (Nat.sub_le _ _) hi1) hi2)⟩

theorem hulls_rel (L L' : List Token) (hf : TokFacts L L') (s1 s1' : List Char)
    (hK : bytesOf s1 = toksBytes L) (hK' : bytesOf s1' = toksBytes L') :
    ∀ (idx : List Nat) (ranges ranges' : List Rng'), (∀ k ∈ idx, k ≤ L.length) →
    HullsOf (bytesOf s1) (idx.map (bnd L)) ranges → HullsOf (bytesOf s1') (idx.map (bnd L')) ranges' →
    RelRs (Rho L L') ranges ranges' := by
  intro idx
  induction idx with
  | nil =>
    intro ranges ranges' _ h h'
    cases ranges with
    | cons _ _ => exact h.elim
    | nil =>
      cases ranges' with
      | cons _ _ => exact h'.elim
      | nil => trivial
  | cons k idx ih =>
    intro ranges ranges' hk h h'
    cases ranges with
    | nil => exact h.elim
    | cons r ranges =>
      cases ranges' with
      | nil => exact h'.elim
      | cons r' ranges' =>
        exact ⟨hull_rel L L' hf s1 s1' hK hK' k (hk k List.mem_cons_self) r r' h.1 h'.1,
          ih ranges ranges' (fun x hx => hk x (List.mem_cons_of_mem _ hx)) h.2 h'.2⟩

theorem merged_rel (L L' : List Token) (hf : TokFacts L L') (s1 s1' : List Char)
    (hK : bytesOf s1 = toksBytes L) (hK' : bytesOf s1' = toksBytes L') (idx : List Nat) (ranges ranges' : List Rng')
    (hidx : ∀ k ∈ idx, k ≤ L.length) (h : HullsOf (bytesOf s1) (idx.map (bnd L)) ranges)
    (h' : HullsOf (bytesOf s1') (idx.map (bnd L')) ranges') :
    RelRs (Rho L L') (mergeOverlapped ranges) (mergeOverlapped ranges') :=
  mergeOverlapped_rel (Rho L L') (rho_mono L L' hf.ne hf.ne' hf.same) ranges ranges'
    (hulls_rel L L' hf s1 s1' hK hK' idx ranges ranges' hidx h h')

theorem minusFrom_congr2 (F F' : List Rng) : ∀ (x : Bytes) (off off' : Nat),
    (∀ j, j < x.length → inAny F (off + j) = inAny F' (off' + j)) → minusFrom x off F = minusFrom x off' F' := by
  intro x
  induction x with
  | nil => intros; rfl
  | cons a rest ih =>
    intro off off' h
    have h0 : inAny F off = inAny F' off' := h 0 (Nat.succ_pos _)
    rw [minusFrom_cons, minusFrom_cons, h0, ih (off + 1) (off' + 1) fun j hj => by
      rw [Nat.add_assoc, Nat.add_assoc, Nat.add_comm 1 j]
      exact h (j + 1) (Nat.succ_lt_succ hj)]

/-- pieces that describe corresponding token lists with corresponding deletions correspond: the same texts, and tags
    for the same pair of tag tokens; in which sense (`C`) is the caller's matter -/
theorem pexact_pair (ds de ds' de' : List Char) (L L' : List Token) (hf : TokFacts L L') (F F' : List Rng)
    (hF : RelRs (Rho L L') F F') (C : List Piece → List Piece → Prop) (nil : C [] [])
    (text : ∀ v qs qs', C qs qs' → C (.text v :: qs) (.text v :: qs'))
    (tag : ∀ (m : Nat) (h : m < L.length) (h' : m < L'.length) b0 rest b0' rest' qs qs', L[m].kind = .element →
      L[m].value = ds ++ (b0 :: (rest ++ de)) → L'[m].value = ds' ++ (b0' :: (rest' ++ de')) →
      C qs qs' → C (.tag b0 rest :: qs) (.tag b0' rest' :: qs')) :
    ∀ (n m : Nat) (qs qs' : List Piece), L.length - m = n → m ≤ L.length →
    PExact ds de F qs (L.drop m) (bnd L m) → PExact ds' de' F' qs' (L'.drop m) (bnd L' m) → C qs qs' := by
  intro n
  induction n with
  | zero =>
    intro m qs qs' hn _ h1 h2
    rw [List.drop_of_length_le (Nat.le_of_sub_eq_zero hn)] at h1
    rw [List.drop_of_length_le (hf.same.1 ▸ Nat.le_of_sub_eq_zero hn)] at h2
    rw [pexact_nil h1, pexact_nil h2]
    exact nil
  | succ n ih =>
    intro m qs qs' hn _ h1 h2
    have hlt : m < L.length := Nat.lt_of_sub_eq_succ hn
    have hlt' : m < L'.length := hf.same.1 ▸ hlt
    rw [List.drop_eq_getElem_cons hlt] at h1
    rw [List.drop_eq_getElem_cons hlt'] at h2
    have next := fun qs qs' => ih (m + 1) qs qs' (by rw [Nat.sub_add_eq, hn, Nat.add_sub_cancel]) hlt
    rcases ((tokPairs_iff L L').mp hf.pairs).get m hlt hlt' with ⟨k1, k2, hval⟩ | ⟨k1, k2, _, _⟩
    · obtain ⟨v, qs1, rfl, v1, r1⟩ := pexact_cons_text k1 h1
      obtain ⟨v', qs1', rfl, v2, r2⟩ := pexact_cons_text k2 h2
      -- corresponding positions of the two copies of the text are deleted alike
      obtain rfl : v = v' := by
        apply bytesOf_inj
        rw [v1, v2, ← hval]
        apply minusFrom_congr2
        intro j hj
        exact inAny_rel (Rho L L') (rho_mono L L' hf.ne hf.ne' hf.same) F F' hF _ _
          ⟨m, j, Nat.le_of_lt hlt, rfl, rfl, Or.inr ⟨_, List.getElem?_eq_getElem hlt, k1, Nat.le_of_lt (bytesOf_length _ ▸ hj)⟩⟩
      rw [bytesOf_length, ← bnd_succ L m hlt] at r1
      rw [bytesOf_length, ← bnd_succ L' m hlt'] at r2
      exact text v _ _ (next qs1 qs1' r1 r2)
    · obtain ⟨b0, rest, qs1, rfl, v1, r1⟩ := pexact_cons_tag k1 h1
      obtain ⟨b0', rest', qs1', rfl, v2, r2⟩ := pexact_cons_tag k2 h2
      rw [bytesOf_length, ← bnd_succ L m hlt] at r1
      rw [bytesOf_length, ← bnd_succ L' m hlt'] at r2
      exact tag m hlt hlt' _ _ _ _ _ _ k1 v1 v2 (next qs1 qs1' r1 r2)

theorem pexact_eq (ds de ds' de' : List Char) (L L' : List Token) (hf : TokFacts L L')
    (hx : TokXs ds de ds' de' (fun _ _ => True) L L') (F F' : List Rng) (hF : RelRs (Rho L L') F F') :
    ∀ (n m : Nat) (qs qs' : List Piece), L.length - m = n → m ≤ L.length →
    PExact ds de F qs (L.drop m) (bnd L m) → PExact ds' de' F' qs' (L'.drop m) (bnd L' m) → qs = qs' := by
  refine pexact_pair ds de ds' de' L L' hf F F' hF Eq rfl (fun v _ _ e => e ▸ rfl) ?_
  intro m h h' b0 rest b0' rest' qs qs' k1 v1 v2 e
  rcases (((tokXs_iff ds de ds' de' _ L L').mp hx).get m h h').1.2 with ⟨hkt, _⟩ | ⟨_, body, _, hv, hv', _, _⟩
  · rw [k1] at hkt; cases hkt
  · rw [hv] at v1; rw [hv'] at v2
    obtain ⟨rfl, rfl⟩ := List.cons.inj ((body_cancel v1.symm).trans (body_cancel v2.symm).symm)
    rw [e]

def TokShapeW (ds de : List Char) (kv : TKind × List Char) : Prop :=
  match kv.1 with
  | .text => True
  | .element => ∃ b0 rest, kv.2 = ds ++ (b0 :: (rest ++ de))

theorem tnorm_shapeW (ds de : List Char) (ps : List Piece) (acc : List Char) :
    ∀ kv ∈ tnorm ds de [] ps acc, TokShapeW ds de kv := by
  intro kv hkv
  rcases mem_tnorm ds de ps acc kv hkv with ⟨hk, _⟩ | ⟨b0, rest, _, rfl⟩
  · simp only [TokShapeW, hk]
  · exact ⟨b0, rest, rfl⟩

theorem tokShapeW_of_shape (d0 e0 : Char) (ds de : List Char) (kv : TKind × List Char)
    (h : TokShape d0 e0 ds de kv) : TokShapeW ds de kv := by
  unfold TokShape at h
  unfold TokShapeW
  cases hk : kv.1 with
  | text => trivial
  | element =>
    rw [hk] at h
    obtain ⟨b0, rest, hv, _⟩ := h
    exact ⟨b0, rest, hv⟩

theorem edgeOK_of_shape (d0 : Char) (dr : List Char) (e0 : Char) (er : List Char)
    (hd0 : wsChar d0 = false) (hel : ∀ w c, (e0 :: er) = w ++ [c] → wsChar c = false) (v : List Char)
    (h : TokShapeW (d0 :: dr) (e0 :: er) (.element, v)) : EdgeOK v := by
  obtain ⟨b0, rest, rfl⟩ := h
  exact edgeOK_delims d0 dr e0 er hd0 hel (b0 :: rest)

/-- `pieces_exact` without conditions on the texts (and without the conclusion that the new pieces are well delimited) -/
theorem pieces_exact_w (d0 : Char) (dr : List Char) (e0 : Char) (er : List Char) (hd0 : wsChar d0 = false)
    (hel : ∀ w c, (e0 :: er) = w ++ [c] → wsChar c = false) (F : List Rng) (K : Bytes)
    (hF : ∀ d, inAny F d = true → ∃ y, K[d]? = some y ∧ isWs y = true) :
    ∀ (L : List Token) (off : Nat) (pre : Bytes),
    K = pre ++ (L.map fun t => bytesOf t.value).flatten → pre.length = off →
    (∀ t ∈ L, TokShapeW (d0 :: dr) (e0 :: er) (t.kind, t.value)) →
    CoresKept F (layoutOf (L.map fun t => bytesOf t.value)) off →
    ∃ ps,
      bytesOf (renderAll (d0 :: dr) (e0 :: er) ps) = minusFrom (L.map fun t => bytesOf t.value).flatten off F ∧
      PExact (d0 :: dr) (e0 :: er) F ps L off := by
  intro L off pre hK hpre hsh hck
  subst hK hpre
  exact pieces_core (d0 :: dr) (e0 :: er) F L pre hF (fun t ht hk => by
    have := hsh t ht
    simp only [TokShapeW, hk] at this
    exact ⟨this, edgeOK_of_shape d0 dr e0 er hd0 hel _ this⟩) hck

def survivors (src ds de : List Char) (cfg : Cfg) : List Token :=
  flattenParts (pruneParts (conditionHolds cfg) (parseSource src ds de))

theorem seamIdx_le (P : Element → Bool) (parts : List Part) : ∀ (n : Nat),
    ∀ k ∈ (seamIdxParts P parts n).1, n ≤ k ∧ k ≤ (seamIdxParts P parts n).2 := by
  induction parts using parts_induction with
  | nil => intro n k hk; simp [seamIdxParts] at hk
  | text t rest ih =>
    intro n k hk
    simp only [seamIdxParts, seamIdxPart, List.nil_append] at hk ⊢
    have := ih (n + 1) k hk
    omega
  | element el st en ch rest ihc ihr =>
    intro n k hk
    simp only [seamIdxParts, seamIdxPart, List.mem_append] at hk ⊢
    have c2 := fun m => seamIdx_count P rest m
    split at hk <;> rename_i hP <;> simp only [hP, if_true, Bool.false_eq_true, if_false] at hk c2 ⊢
    · rcases hk with hk | hk
      · obtain rfl := List.mem_singleton.mp hk
        have := c2 k; omega
      · have := ihr n k hk; omega
    · have c1 := seamIdx_count P ch (n + 1)
      rcases hk with hk | hk
      · have := ihc (n + 1) k hk
        have := c2 ((seamIdxParts P ch (n + 1)).2 + 1); omega
      · have := ihr _ k hk; omega

theorem seamIdxPart_le (P : Element → Bool) : ∀ (p : Part) (n : Nat),
    ∀ k ∈ (seamIdxPart P p n).1, n ≤ k ∧ k ≤ (seamIdxPart P p n).2 := by
  intro p n k hk
  have := seamIdx_le P [p] n k (by simpa [seamIdxParts] using hk)
  simpa [seamIdxParts] using this

theorem seamIdx_le_length (P : Element → Bool) (parts : List Part) :
    ∀ k ∈ (seamIdxParts P parts 0).1, k ≤ (flattenParts (pruneParts P parts)).length := by
  intro k hk
  have := (seamIdx_le P parts 0 k hk).2
  rwa [seamIdx_count, Nat.zero_add] at this

/-- everything one cleaning of a source without `unwrap-block` gives, when its tokens are the normalised pieces -/
theorem clean_exact (d0 : Char) (dr : List Char) (e0 : Char) (er : List Char)
    (hd0 : wsChar d0 = false) (hel : ∀ w c, (e0 :: er) = w ++ [c] → wsChar c = false)
    (ps : List Piece)
    (htn : (tokenize (renderAll (d0 :: dr) (e0 :: er) ps) (d0 :: dr) (e0 :: er)).map (fun t => (t.kind, t.value))
      = tnorm (d0 :: dr) (e0 :: er) [] ps [])
    (cfg : Cfg) (out : List Char)
    (hnu : NoUnwrapAttr (parseSource (renderAll (d0 :: dr) (e0 :: er) ps) (d0 :: dr) (e0 :: er)))
    (h : clean (renderAll (d0 :: dr) (e0 :: er) ps) (d0 :: dr) (e0 :: er) cfg = .ok out) :
    ∃ qs s1 ranges,
      out = renderAll (d0 :: dr) (e0 :: er) qs ∧
      bytesOf s1 = toksBytes (flattenParts (pruneParts (conditionHolds cfg)
        (parseSource (renderAll (d0 :: dr) (e0 :: er) ps) (d0 :: dr) (e0 :: er)))) ∧
      HullsOf (bytesOf s1)
        ((seamIdxParts (conditionHolds cfg) (parseSource (renderAll (d0 :: dr) (e0 :: er) ps) (d0 :: dr) (e0 :: er)) 0).1.map
          (bnd (flattenParts (pruneParts (conditionHolds cfg)
            (parseSource (renderAll (d0 :: dr) (e0 :: er) ps) (d0 :: dr) (e0 :: er)))))) ranges ∧
      PExact (d0 :: dr) (e0 :: er) (mergeOverlapped ranges) qs
        (flattenParts (pruneParts (conditionHolds cfg)
          (parseSource (renderAll (d0 :: dr) (e0 :: er) ps) (d0 :: dr) (e0 :: er)))) 0 ∧
      (∀ t ∈ flattenParts (pruneParts (conditionHolds cfg)
          (parseSource (renderAll (d0 :: dr) (e0 :: er) ps) (d0 :: dr) (e0 :: er))),
        t.value ≠ [] ∧ TokShapeW (d0 :: dr) (e0 :: er) (t.kind, t.value)) ∧
      WsOnly (mergeOverlapped ranges) (bytesOf s1) := by
  have hnr : NoReadyUnwrap cfg (parseSource (renderAll (d0 :: dr) (e0 :: er) ps) (d0 :: dr) (e0 :: er)) :=
    fun e he _ => hnu e he
  generalize renderAll (d0 :: dr) (e0 :: er) ps = src at h hnu hnr htn ⊢
  have hde : (e0 :: er) ≠ [] := List.cons_ne_nil _ _
  obtain ⟨hok', _⟩ := tokenize_ok src (d0 :: dr) (e0 :: er) hde
  have hfl : flattenParts (parseSource src (d0 :: dr) (e0 :: er)) = tokenize src (d0 :: dr) (e0 :: er) :=
    parse_flatten (d0 :: dr) (e0 :: er) _
  have hspan := parseSource_span src (d0 :: dr) (e0 :: er) hde
  -- what is left when the ready extents `X` are gone is the text of the surviving tokens
  obtain ⟨s1, hs1, hf⟩ := clean_ok src (d0 :: dr) (e0 :: er) cfg out hde h
  obtain ⟨hs, hcov⟩ := buildRemoveMarker_spec src (d0 :: dr) (e0 :: er) cfg hde
  generalize hM : buildRemoveMarker cfg (bytesOf src) (parseSource src (d0 :: dr) (e0 :: er)) = M at hf hs hcov
  unfold extentsOfSource at hs1 hcov
  generalize hX : readyExtents cfg (bytesOf src) (parseSource src (d0 :: dr) (e0 :: er)) = X at hs1 hcov
  have hXe : ∀ i, 0 ≤ i → i < blen src → inAny X i = inAny (extentsOfParts cfg (bytesOf src) (parseSource src (d0 :: dr) (e0 :: er))) i :=
    fun i _ _ => by rw [← hX, readyExtents_eq]
  obtain ⟨hA, hW⟩ := prune_tokens cfg (bytesOf src) X (parseSource src (d0 :: dr) (e0 :: er)) 0 (blen src) hspan hnr hXe
  rw [hA]
  have hseam := seam_parts cfg X (tokenize src (d0 :: dr) (e0 :: er)) hok'.chain (hfl ▸ hW)
    (parseSource src (d0 :: dr) (e0 :: er)) 0 (blen src) [] [] hspan hnu (by rw [hok'.flatEq]; exact hXe) (by rw [hfl]; simp)
  rw [hfl] at hW ⊢
  generalize tokenize src (d0 :: dr) (e0 :: er) = T at hW hok' htn hseam
  rw [hok'.flatEq, List.filter_nil, List.length_nil] at hseam
  have hremoved : bytesOf s1 = (tokSegs X T).flatten := by
    rw [hs1, minusRanges_eq_minusFrom, tokSegs_flatten, ← minusFrom_tokens X T 0 0 hok'.chain hW, hok'.flatEq]
  -- `format` is handed the offsets of the markers, which are ends of surviving tokens
  have hnp : ∀ m ∈ M, m.pair = none := by
    rw [← hM]
    exact mergeMarkers_nopair _ [] (collect_nopairs cfg (bytesOf src) _ hnr) (by simp)
  rw [removedPos_koffTo X (bytesOf src) M (blen src) hs (by simp) (fun i => (hcov i).symm)] at hf
  obtain ⟨ranges, hh, ho, hanch, hFws⟩ := format_explicit s1 _ (bytesOf out)
    (fun p hp => by
      obtain ⟨m, hm, rfl⟩ := List.mem_map.mp hp
      exact hnp m hm)
    hf (segEnds (tokSegs X T) 0)
    (fun p hp => by
      obtain ⟨m, hm, rfl⟩ := List.mem_map.mp hp
      obtain ⟨_, g2, _⟩ := MSorted_bounds M 0 (blen src) hs m hm
      have := koffTo_covered X T hok'.chain hW m.start
        (by rw [hok'.flatEq]; omega) ((hcov m.start).mp ⟨m, hm, Nat.le_refl _, g2⟩)
      rwa [hok'.flatEq] at this)
  simp only [List.map_map, Function.comp_def] at hh
  have hshape : ∀ t ∈ T.filter (keepTok X), TokShapeW (d0 :: dr) (e0 :: er) (t.kind, t.value) := by
    intro t ht
    apply tnorm_shapeW _ _ ps []
    rw [← htn]
    exact List.mem_map.mpr ⟨t, (List.mem_filter.mp ht).1, rfl⟩
  have hck := coresKept_of_anchored (mergeOverlapped ranges) (bytesOf s1) (tokSegs X T) 0 [] hremoved rfl hanch
  obtain ⟨qs, q2, q5⟩ := pieces_exact_w d0 dr e0 er hd0 hel (mergeOverlapped ranges) (bytesOf s1) hFws
    (T.filter (keepTok X)) 0 [] hremoved rfl hshape hck
  refine ⟨qs, s1, ranges, bytesOf_inj _ _ (by rw [q2, ho, hremoved]; rfl), hremoved, ?_, q5, ?_, hFws⟩
  · have hMstart : M.map (fun m => koffTo X (bytesOf src) m.start) =
        (refRegions (conditionHolds cfg) (bytesOf src) (parseSource src (d0 :: dr) (e0 :: er))).map
          (fun r => koffTo X (bytesOf src) r.1) := by
      rw [← C15.regions_exact src (d0 :: dr) (e0 :: er) cfg hde (wrapFree_of_noUnwrap _ _ hnu)]
      simp only [listMarkers, hM, List.map_map]
      rfl
    rw [hMstart, hseam] at hh
    exact hh
  · intro t ht
    exact ⟨chain_value_ne_nil T 0 0 hok'.chain t (List.mem_filter.mp ht).1, hshape t ht⟩

theorem tokPair_of_shapes (d0 : Char) (dr : List Char) (e0 : Char) (er : List Char)
    (d0' : Char) (dr' : List Char) (e0' : Char) (er' : List Char)
    (hd0 : wsChar d0 = false) (hel : ∀ w c, (e0 :: er) = w ++ [c] → wsChar c = false)
    (hd0' : wsChar d0' = false) (hel' : ∀ w c, (e0' :: er') = w ++ [c] → wsChar c = false) (t u : Token)
    (hk : t.kind = u.kind) (hv : t.kind = .text → t.value = u.value)
    (st : TokShapeW (d0 :: dr) (e0 :: er) (t.kind, t.value)) (su : TokShapeW (d0' :: dr') (e0' :: er') (u.kind, u.value)) :
    TokPair t u := by
  cases hkt : t.kind with
  | text => exact Or.inl ⟨hkt, hk ▸ hkt, hv hkt⟩
  | element =>
    have hku : u.kind = .element := hk ▸ hkt
    simp only [TokShapeW, hkt] at st
    simp only [TokShapeW, hku] at su
    exact Or.inr ⟨hkt, hku, edgeOK_of_shape d0 dr e0 er hd0 hel _ st, edgeOK_of_shape d0' dr' e0' er' hd0' hel' _ su⟩

theorem tokFacts_of_pw (d0 : Char) (dr : List Char) (e0 : Char) (er : List Char)
    (d0' : Char) (dr' : List Char) (e0' : Char) (er' : List Char)
    (hd0 : wsChar d0 = false) (hel : ∀ w c, (e0 :: er) = w ++ [c] → wsChar c = false)
    (hd0' : wsChar d0' = false) (hel' : ∀ w c, (e0' :: er') = w ++ [c] → wsChar c = false)
    {Q : Token → Token → Prop} (hQ : ∀ t u, Q t u → t.kind = u.kind ∧ (t.kind = .text → t.value = u.value))
    {L L' : List Token} (h : PW Q L L')
    (h1 : ∀ t ∈ L, t.value ≠ [] ∧ TokShapeW (d0 :: dr) (e0 :: er) (t.kind, t.value))
    (h2 : ∀ t ∈ L', t.value ≠ [] ∧ TokShapeW (d0' :: dr') (e0' :: er') (t.kind, t.value)) : TokFacts L L' :=
  tokFacts_of_pairs
    (h.imp_mem fun t u ht hu q => tokPair_of_shapes d0 dr e0 er d0' dr' e0' er' hd0 hel hd0' hel' t u
      (hQ t u q).1 (hQ t u q).2 (h1 t ht).2 (h2 u hu).2)
    (fun t ht => blen_pos_of_ne_nil (h1 t ht).1) (fun t ht => blen_pos_of_ne_nil (h2 t ht).1)

theorem tokFacts_of (d0 : Char) (dr : List Char) (e0 : Char) (er : List Char)
    (d0' : Char) (dr' : List Char) (e0' : Char) (er' : List Char)
    (hd0 : wsChar d0 = false) (hel : ∀ w c, (e0 :: er) = w ++ [c] → wsChar c = false)
    (hd0' : wsChar d0' = false) (hel' : ∀ w c, (e0' :: er') = w ++ [c] → wsChar c = false) :
    ∀ (L L' : List Token), TokXs (d0 :: dr) (e0 :: er) (d0' :: dr') (e0' :: er') (fun _ _ => True) L L' →
    (∀ t ∈ L, t.value ≠ [] ∧ TokShapeW (d0 :: dr) (e0 :: er) (t.kind, t.value)) →
    (∀ t ∈ L', t.value ≠ [] ∧ TokShapeW (d0' :: dr') (e0' :: er') (t.kind, t.value)) →
    TokFacts L L' :=
  fun L L' hx => tokFacts_of_pw d0 dr e0 er d0' dr' e0' er' hd0 hel hd0' hel'
    (fun _ _ q => tokX0_texts q.1) ((tokXs_iff _ _ _ _ _ L L').mp hx)

/-- two spellings of one document without `unwrap-block`, under configurations that select corresponding elements:
    the surviving tokens correspond, and the two cleanings delete corresponding ranges of whitespace from them.
    What corresponding tokens and elements are (`Q`, `E`) is the caller's matter; the parser must respect it (`hs`). -/
theorem clean_exact_sim (d0 : Char) (dr : List Char) (e0 : Char) (er : List Char)
    (d0' : Char) (dr' : List Char) (e0' : Char) (er' : List Char)
    (hd0 : wsChar d0 = false) (hel : ∀ w c, (e0 :: er) = w ++ [c] → wsChar c = false)
    (hd0' : wsChar d0' = false) (hel' : ∀ w c, (e0' :: er') = w ++ [c] → wsChar c = false)
    {Q : Token → Token → Prop} {E : Element → Element → Prop}
    (hs : Spelling (d0 :: dr) (e0 :: er) (d0' :: dr') (e0' :: er') Q E)
    (hQ : ∀ t u, Q t u → t.kind = u.kind ∧ (t.kind = .text → t.value = u.value))
    (hattr : ∀ e e', E e e' → hasAttr e "unwrap-block" = false → hasAttr e' "unwrap-block" = false)
    (ps ps' : List Piece)
    (htn : (tokenize (renderAll (d0 :: dr) (e0 :: er) ps) (d0 :: dr) (e0 :: er)).map (fun t => (t.kind, t.value))
      = tnorm (d0 :: dr) (e0 :: er) [] ps [])
    (htn' : (tokenize (renderAll (d0' :: dr') (e0' :: er') ps') (d0' :: dr') (e0' :: er')).map (fun t => (t.kind, t.value))
      = tnorm (d0' :: dr') (e0' :: er') [] ps' [])
    (hT : PW Q (tokenize (renderAll (d0 :: dr) (e0 :: er) ps) (d0 :: dr) (e0 :: er))
      (tokenize (renderAll (d0' :: dr') (e0' :: er') ps') (d0' :: dr') (e0' :: er')))
    (cfg cfg' : Cfg) (hsel : ∀ e e', E e e' → conditionHolds cfg' e' = conditionHolds cfg e) (out out' : List Char)
    (hnu : NoUnwrapAttr (parseSource (renderAll (d0 :: dr) (e0 :: er) ps) (d0 :: dr) (e0 :: er)))
    (h : clean (renderAll (d0 :: dr) (e0 :: er) ps) (d0 :: dr) (e0 :: er) cfg = .ok out)
    (h' : clean (renderAll (d0' :: dr') (e0' :: er') ps') (d0' :: dr') (e0' :: er') cfg' = .ok out') :
    ∃ L L', L = survivors (renderAll (d0 :: dr) (e0 :: er) ps) (d0 :: dr) (e0 :: er) cfg ∧
      L' = survivors (renderAll (d0' :: dr') (e0' :: er') ps') (d0' :: dr') (e0' :: er') cfg' ∧
      ∃ qs qs' F F', out = renderAll (d0 :: dr) (e0 :: er) qs ∧ out' = renderAll (d0' :: dr') (e0' :: er') qs' ∧
        PExact (d0 :: dr) (e0 :: er) F qs L 0 ∧ WsOnly F (toksBytes L) ∧
        PExact (d0' :: dr') (e0' :: er') F' qs' L' 0 ∧ WsOnly F' (toksBytes L') ∧
        TokFacts L L' ∧ PW Q L L' ∧ RelRs (Rho L L') F F' := by
  refine ⟨_, _, rfl, rfl, ?_⟩
  have hG : Alike Q E (parseSource (renderAll (d0 :: dr) (e0 :: er) ps) (d0 :: dr) (e0 :: er))
      (parseSource (renderAll (d0' :: dr') (e0' :: er') ps') (d0' :: dr') (e0' :: er')) := parse_sim hs Alike.congr hT
  obtain ⟨qs, s1, ranges, o1, k1, hu1, x1, f1, w1⟩ := clean_exact d0 dr e0 er hd0 hel ps htn cfg out hnu h
  obtain ⟨qs', s1', ranges', o2, k2, hu2, x2, f2, w2⟩ :=
    clean_exact d0' dr' e0' er' hd0' hel' ps' htn' cfg' out' (hG.forall_elements hattr hnu) h'
  have hx := (hG.prune hsel).flatten
  -- the seams lie behind the same numbers of surviving tokens
  rw [← hG.seamIdx hsel 0] at hu2
  have hbound := seamIdx_le_length (conditionHolds cfg) (parseSource (renderAll (d0 :: dr) (e0 :: er) ps) (d0 :: dr) (e0 :: er))
  unfold survivors
  generalize flattenParts (pruneParts (conditionHolds cfg) _) = L at *
  generalize flattenParts (pruneParts (conditionHolds cfg') _) = L' at *
  have hf := tokFacts_of_pw d0 dr e0 er d0' dr' e0' er' hd0 hel hd0' hel' hQ hx f1 f2
  -- the seams as a variable: passing `hu1` on with the parsed document in it makes the elaborator unfold `HullsOf` on it
  generalize (seamIdxParts (conditionHolds cfg) _ 0).1 = idx at hu1 hu2 hbound
  exact ⟨qs, qs', _, _, o1, o2, x1, k1 ▸ w1, x2, k2 ▸ w2, hf, hx,
    merged_rel L L' hf s1 s1' k1 k2 idx ranges ranges' hbound hu1 hu2⟩

/-- C18 exactly, for documents without `unwrap-block`, in its general form: whenever the tokens of the two renderings
    are the normalised pieces (`htn`, `htn'` - the conclusion of C08 on the source) and the tag bodies can be stripped of
    both delimiter pairs, the two cleanings give one piece list, rendered under the respective pair -/
theorem respell_exact_tn (d0 : Char) (dr : List Char) (e0 : Char) (er : List Char)
    (d0' : Char) (dr' : List Char) (e0' : Char) (er' : List Char)
    (hd0 : wsChar d0 = false) (hel : ∀ w c, (e0 :: er) = w ++ [c] → wsChar c = false)
    (hd0' : wsChar d0' = false) (hel' : ∀ w c, (e0' :: er') = w ++ [c] → wsChar c = false)
    (ps : List Piece)
    (hstrip : ∀ p ∈ ps, p.strip (d0 :: dr) (e0 :: er) ∧ p.strip (d0' :: dr') (e0' :: er'))
    (htn : (tokenize (renderAll (d0 :: dr) (e0 :: er) ps) (d0 :: dr) (e0 :: er)).map (fun t => (t.kind, t.value))
      = tnorm (d0 :: dr) (e0 :: er) [] ps [])
    (htn' : (tokenize (renderAll (d0' :: dr') (e0' :: er') ps) (d0' :: dr') (e0' :: er')).map (fun t => (t.kind, t.value))
      = tnorm (d0' :: dr') (e0' :: er') [] ps [])
    (cfg : Cfg) (out out' : List Char)
    (hnu : NoUnwrapAttr (parseSource (renderAll (d0 :: dr) (e0 :: er) ps) (d0 :: dr) (e0 :: er)))
    (h : clean (renderAll (d0 :: dr) (e0 :: er) ps) (d0 :: dr) (e0 :: er) cfg = .ok out)
    (h' : clean (renderAll (d0' :: dr') (e0' :: er') ps) (d0' :: dr') (e0' :: er') cfg = .ok out') :
    ∃ qs F F', out = renderAll (d0 :: dr) (e0 :: er) qs ∧ out' = renderAll (d0' :: dr') (e0' :: er') qs ∧
      PExact (d0 :: dr) (e0 :: er) F qs (survivors (renderAll (d0 :: dr) (e0 :: er) ps) (d0 :: dr) (e0 :: er) cfg) 0 ∧
      WsOnly F (toksBytes (survivors (renderAll (d0 :: dr) (e0 :: er) ps) (d0 :: dr) (e0 :: er) cfg)) ∧
      PExact (d0' :: dr') (e0' :: er') F' qs (survivors (renderAll (d0' :: dr') (e0' :: er') ps) (d0' :: dr') (e0' :: er') cfg) 0 ∧
      WsOnly F' (toksBytes (survivors (renderAll (d0' :: dr') (e0' :: er') ps) (d0' :: dr') (e0' :: er') cfg)) := by
  obtain ⟨L, L', eL, eL', qs, qs', F, F', o1, o2, x1, w1, x2, w2, hf, hx, hF⟩ :=
    clean_exact_sim d0 dr e0 er d0' dr' e0' er' hd0 hel hd0' hel'
    (spelling_x _ _ _ _ (fun _ _ => True) (List.cons_ne_nil _ _) (List.cons_ne_nil _ _) (List.cons_ne_nil _ _) (List.cons_ne_nil _ _))
    (fun _ _ q => tokX0_texts q.1)
    (fun _ _ he h => he ▸ h) ps ps htn htn' (tokX_of_tnorm _ _ _ _ ps [] _ _ hstrip htn htn') cfg cfg
    (fun _ _ he => by rw [he]) out out' hnu h h'
  obtain rfl := pexact_eq (d0 :: dr) (e0 :: er) (d0' :: dr') (e0' :: er') L L' hf ((tokXs_iff _ _ _ _ _ L L').mpr hx) F F' hF
    _ 0 qs qs' rfl (Nat.zero_le _) x1 x2
  subst eL eL'
  exact ⟨qs, F, F', o1, o2, x1, w1, x2, w2⟩

/-- C18 exactly, for documents without `unwrap-block`: one piece list under two delimiter pairs is cleaned to one
    piece list under the respective pair -/
theorem respell_exact (d0 : Char) (dr : List Char) (e0 : Char) (er : List Char)
    (d0' : Char) (dr' : List Char) (e0' : Char) (er' : List Char)
    (hd0 : wsChar d0 = false) (hel : ∀ w c, (e0 :: er) = w ++ [c] → wsChar c = false)
    (hd0' : wsChar d0' = false) (hel' : ∀ w c, (e0' :: er') = w ++ [c] → wsChar c = false)
    (ps : List Piece)
    (hfree : ∀ p ∈ ps, p.fits d0 e0 (d0 :: dr) (e0 :: er) ∧ p.fits d0' e0' (d0' :: dr') (e0' :: er'))
    (cfg : Cfg) (out out' : List Char)
    (hnu : NoUnwrapAttr (parseSource (renderAll (d0 :: dr) (e0 :: er) ps) (d0 :: dr) (e0 :: er)))
    (h : clean (renderAll (d0 :: dr) (e0 :: er) ps) (d0 :: dr) (e0 :: er) cfg = .ok out)
    (h' : clean (renderAll (d0' :: dr') (e0' :: er') ps) (d0' :: dr') (e0' :: er') cfg = .ok out') :
    ∃ qs F F', out = renderAll (d0 :: dr) (e0 :: er) qs ∧ out' = renderAll (d0' :: dr') (e0' :: er') qs ∧
      PExact (d0 :: dr) (e0 :: er) F qs (survivors (renderAll (d0 :: dr) (e0 :: er) ps) (d0 :: dr) (e0 :: er) cfg) 0 ∧
      WsOnly F (toksBytes (survivors (renderAll (d0 :: dr) (e0 :: er) ps) (d0 :: dr) (e0 :: er) cfg)) ∧
      PExact (d0' :: dr') (e0' :: er') F' qs (survivors (renderAll (d0' :: dr') (e0' :: er') ps) (d0' :: dr') (e0' :: er') cfg) 0 ∧
      WsOnly F' (toksBytes (survivors (renderAll (d0' :: dr') (e0' :: er') ps) (d0' :: dr') (e0' :: er') cfg)) :=
  respell_exact_tn d0 dr e0 er d0' dr' e0' er' hd0 hel hd0' hel' ps
    (fun p hp => ⟨Piece.strip_of_fits _ _ _ _ p (hfree p hp).1, Piece.strip_of_fits _ _ _ _ p (hfree p hp).2⟩)
    (tokens_tnorm d0 dr e0 er ps (fun p hp => Piece.ok_of_fits _ _ _ _ p (hfree p hp).1))
    (tokens_tnorm d0' dr' e0' er' ps (fun p hp => Piece.ok_of_fits _ _ _ _ p (hfree p hp).2))
    cfg out out' hnu h h'

/-! Non-vacuity: the example of `respell_default` has no `unwrap-block`; both cleanings give the same text. -/
example : NoUnwrapAttr (parseSource (renderAll "<".toList ">".toList exPs2) "<".toList ">".toList) :=
  exPs2_noUnwrapAttr

/-! Non-vacuity with the command's default delimiters `<!-- <` / `> -->`, whose characters - blank, `-`, `<`, `>` -
    do occur in tag bodies (`tl to='2001-01-01 00:00:00'`): the pieces fit both spellings, and both cleanings give the
    same pieces. -/
def fitsB (d0 e0 : Char) (ds de : List Char) : Piece → Bool
  | .text s => s.all (· != d0)
  | .tag b0 rest => rest.all (· != e0) && !(ds.isPrefixOf ((b0 :: rest) ++ de)) && !(de.reverse.isPrefixOf (b0 :: rest).reverse)

theorem fitsB_sound (d0 e0 : Char) (ds de : List Char) (p : Piece) (h : fitsB d0 e0 ds de p = true) : p.fits d0 e0 ds de := by
  cases p with
  | text s =>
    intro c hc
    simp only [fitsB, List.all_eq_true] at h
    simpa using h c hc
  | tag b0 rest =>
    simp only [fitsB, Bool.and_eq_true, List.all_eq_true, Bool.not_eq_true'] at h
    obtain ⟨⟨h1, h2⟩, h3⟩ := h
    exact ⟨fun c hc => by simpa using h1 c hc, h2, h3⟩

example : (∀ p ∈ exPs2, p.fits '<' '>' "<".toList ">".toList ∧ p.fits '<' '>' "<!-- <".toList "> -->".toList) ∧
    outIs (clean (renderAll "<!-- <".toList "> -->".toList exPs2) "<!-- <".toList "> -->".toList exC2) "a\nm\n\nz\n" = true := by
  have h : exPs2.all (fitsB '<' '>' "<!-- <".toList "> -->".toList) = true ∧
      outIs (clean (renderAll "<!-- <".toList "> -->".toList exPs2) "<!-- <".toList "> -->".toList exC2) "a\nm\n\nz\n" = true := by
    rw [outIs_iff]
    decide_lit exPs2 exC2
  exact ⟨fun p hp => ⟨(exPs2_fits p hp).1, fitsB_sound _ _ _ _ p (List.all_eq_true.mp h.1 p hp)⟩, h.2⟩

end Chiritori.Props.C18
