import Chiritori.Lemmas.DecideLit
import Chiritori.Lemmas.Totality
/-
  C02 — No over-removal, C03 — No under-removal (proved together).

  `Statement`: whenever `clean` returns, its output is the input with exactly the ready extents
  (Spec.extentsOfSource: whole element for the default strategy, the two wrapper parts of C11 for unwrap-block,
  of every element whose condition holds and that is not skipped) taken out, and then some spaces, tabs and
  line breaks taken out (`Spec.wsSubseq` = the greedy, complete decision procedure for that relation).
  * C02: nothing outside the extents disappears except whitespace; order is preserved (a subsequence).
  * C03: every byte inside a ready extent disappears - also for elements nested in pending, skipped or
    unregistered elements, in other ready elements, or in the body of an unwrap-block.
  That `clean` does return (never panics) is C01.
-/
namespace Chiritori.Props.C02
open Chiritori Chiritori.Spec

theorem removed_eq (src ds de : List Char) (cfg : Cfg) (hde : de ≠ []) (removed : Bytes)
    (h : removeMarkers (bytesOf src) (buildRemoveMarker cfg (bytesOf src) (parseSource src ds de)) = .ok removed) :
    removed = minusRanges (bytesOf src) (extentsOfSource src ds de cfg) :=
  removeMarkers_source src ds de cfg hde removed h

def Statement : Prop :=
  ∀ (src ds de : List Char) (cfg : Cfg) (out : List Char), ds ≠ [] → de ≠ [] →
    clean src ds de cfg = .ok out → c02c03Holds src ds de cfg out = true

/-- C03: the non-whitespace text of the output is the non-whitespace text of the input minus the ready extents -/
theorem nonws_eq (k o : Bytes) (h : WsSub k o) : k.filter (fun x => !isWs x) = o.filter (fun x => !isWs x) := by
  induction h with
  | nil => rfl
  | keep x _ ih => simp [List.filter_cons, ih]
  | skip x hx _ ih => simp [List.filter_cons, hx, ih]

/-- C02: the output is a subsequence of the input (cleaning only deletes, order is preserved) -/
theorem sublist_of_WsSub (k o : Bytes) (h : WsSub k o) : o.Sublist k := by
  induction h with
  | nil => exact List.Sublist.slnil
  | keep x _ ih => exact ih.cons_cons x
  | skip x _ _ ih => exact ih.cons x

/-- the output is the source without the ready extents, with some whitespace bytes left out and nothing else changed -/
theorem clean_wsSub (src ds de : List Char) (cfg : Cfg) (out : List Char) (hde : de ≠ [])
    (h : clean src ds de cfg = .ok out) :
    WsSub (minusRanges (bytesOf src) (extentsOfSource src ds de cfg)) (bytesOf out) := by
  obtain ⟨s1, hs1, hf⟩ := clean_ok src ds de cfg out hde h
  rw [← hs1]
  exact (format_wsSub s1 _ _ hf).1

theorem c02_c03 : Statement := fun src ds de cfg out _ hde h =>
  wsSubseq_of_WsSub _ _ (clean_wsSub src ds de cfg out hde h)

/-- C03, about `clean` itself: the non-whitespace bytes of the output are those of the source minus the ready extents -/
theorem clean_nonws (src ds de : List Char) (cfg : Cfg) (out : List Char) (hde : de ≠ [])
    (h : clean src ds de cfg = .ok out) :
    (minusRanges (bytesOf src) (extentsOfSource src ds de cfg)).filter (fun x => !isWs x) =
      (bytesOf out).filter (fun x => !isWs x) :=
  nonws_eq _ _ (clean_wsSub src ds de cfg out hde h)

/-- C02, about `clean` itself: the output is a subsequence of the source minus the ready extents -/
theorem clean_sublist (src ds de : List Char) (cfg : Cfg) (out : List Char) (hde : de ≠ [])
    (h : clean src ds de cfg = .ok out) :
    (bytesOf out).Sublist (minusRanges (bytesOf src) (extentsOfSource src ds de cfg)) :=
  sublist_of_WsSub _ _ (clean_wsSub src ds de cfg out hde h)

/-! Non-vacuity: a document with a ready element nested in a pending one, and an unwrap-block. -/
def exCfg : Cfg := ⟨"tl".toList, "rm".toList, 1577836800, 0, "+00:00".toList, ["a".toList]⟩
def exSrc : List Char :=
  "a\n<rm name='b'>\n  <tl to='2000-01-01 00:00:00'>\n  x\n  </tl>\ny\n</rm>\n<rm name='a' unwrap-block>\n{\n  z\n}\n</rm>\n".toList
theorem ok_of_toOption {ε α} {x : Except ε α} {a : α} (h : x.toOption = some a) : x = .ok a := by
  cases x with
  | error e => cases h
  | ok b => exact congrArg Except.ok (Option.some.inj h)

theorem exSrc_cleaned :
    (extentsOfSource exSrc "<".toList ">".toList exCfg).length = 3 ∧
    (clean exSrc "<".toList ">".toList exCfg).toOption = some "a\n<rm name='b'>\ny\n</rm>\nz\n".toList := by
  decide_lit exSrc exCfg
example : (extentsOfSource exSrc "<".toList ">".toList exCfg).length = 3 := exSrc_cleaned.1
example : (match clean exSrc "<".toList ">".toList exCfg with
    | .ok o => o == "a\n<rm name='b'>\ny\n</rm>\nz\n".toList
    | .error _ => false) = true := by
  rw [ok_of_toOption exSrc_cleaned.2]
  exact beq_self_eq_true _

end Chiritori.Props.C02
