import Chiritori.Lemmas.DecideLit
import Chiritori.Lemmas.Rename
import Chiritori.Props.C18Exact
/-
  C18, tag names: a document whose tags are grammar tags (C09), without `unwrap-block`, written under one spelling -
  delimiters and tag names - and under another, is cleaned to one and the same sequence of pieces under the respective
  spelling: texts byte for byte, tags the same grammar tags with the renamed names.
-/
namespace Chiritori.Props.C18
open Chiritori Chiritori.Spec

/-- two piece lists that differ in the names of their (grammar) tags only -/
def PiecesRen (ρ : List Char → List Char) (N : List Char → Prop) : List Piece → List Piece → Prop
  | [], [] => True
  | .text s :: ps, .text s' :: qs => s = s' ∧ PiecesRen ρ N ps qs
  | .tag b0 rest :: ps, .tag b0' rest' :: qs =>
    (∃ tg : TagS, tg.ok ∧ N tg.name ∧ b0 :: rest = tg.render ∧ b0' :: rest' = (renTag ρ tg).render) ∧ PiecesRen ρ N ps qs
  | _, _ => False

theorem cond_ren (ρ : List Char → List Char) (N : List Char → Prop) (hρ : RenOK ρ N) (cfg : Cfg)
    (htl : N cfg.tlName) (hrm : N cfg.rmName) (el : Element) (hn : N el.name) :
    conditionHolds { cfg with tlName := ρ cfg.tlName, rmName := ρ cfg.rmName } (renEl ρ el) = conditionHolds cfg el :=
  conditionHolds_rename ρ cfg el (hρ.inj _ _ hn hrm) (hρ.inj _ _ hn htl)

theorem tnorm_n (ds de ds' de' : List Char) (ρ : List Char → List Char) (N : List Char → Prop) (ps ps' : List Piece)
    (h : PiecesRen ρ N ps ps') (acc : List Char) (hf : ∀ p ∈ ps, p.strip ds de) (hf' : ∀ p ∈ ps', p.strip ds' de') :
    PW (Kv (TokN ds de ds' de' ρ N)) (tnorm ds de [] ps acc) (tnorm ds' de' [] ps' acc) := by
  have hopt := kv_optText (Q := TokN ds de ds' de' ρ N) fun t u tk uk tv => ⟨tk.trans uk.symm, .inl ⟨tk, tv⟩⟩
  fun_induction PiecesRen ρ N ps ps' generalizing acc with
  | case1 =>
    simp only [tnorm, List.append_nil]
    exact hopt acc
  | case2 s ps s' ps' ih =>
    obtain ⟨rfl, h⟩ := h
    exact ih h (acc ++ s) (fun p hp => hf p (List.mem_cons_of_mem _ hp)) (fun p hp => hf' p (List.mem_cons_of_mem _ hp))
  | case3 b0 rest ps b0' rest' ps' ih =>
    obtain ⟨⟨tg, hok, hn, hb, hb'⟩, h⟩ := h
    have htag : Kv (TokN ds de ds' de' ρ N) (.element, ds ++ (b0 :: (rest ++ de))) (.element, ds' ++ (b0' :: (rest' ++ de'))) :=
      kv_of fun t u tk tv uk uv =>
        ⟨tk.trans uk.symm, .inr ⟨tk, tg, hok, hn, by rw [tv, ← hb]; simp, by rw [uv, ← hb']; simp,
          hb ▸ hf (.tag b0 rest) List.mem_cons_self, hb' ▸ hf' (.tag b0' rest') List.mem_cons_self⟩⟩
    simp only [tnorm]
    exact ((hopt acc).append (.cons htag .nil)).append
      (ih h [] (fun p hp => hf p (List.mem_cons_of_mem _ hp)) (fun p hp => hf' p (List.mem_cons_of_mem _ hp)))
  | case4 => exact h.elim

theorem tokNR_of_tnorm (ds de ds' de' : List Char) (ρ : List Char → List Char) (N : List Char → Prop)
    (ps ps' : List Piece) (acc : List Char) (T T' : List Token) (h : PiecesRen ρ N ps ps')
    (hf : ∀ p ∈ ps, p.strip ds de) (hf' : ∀ p ∈ ps', p.strip ds' de')
    (hT : T.map (fun t => (t.kind, t.value)) = tnorm ds de [] ps acc)
    (hT' : T'.map (fun t => (t.kind, t.value)) = tnorm ds' de' [] ps' acc) :
    PW (TokNR ds de ds' de' ρ N (fun _ _ => True)) T T' :=
  ((tnorm_n ds de ds' de' ρ N ps ps' h acc hf hf').tokens_of_kv hT hT').mono fun _ _ h => ⟨h, trivial⟩

theorem pexact_ren (ds de ds' de' : List Char) (ρ : List Char → List Char) (N : List Char → Prop)
    (L L' : List Token) (hf : TokFacts L L')
    (hx : TokNs ds de ds' de' ρ N (fun _ _ => True) L L') (F F' : List Rng) (hF : RelRs (Rho L L') F F') :
    ∀ (n m : Nat) (qs qs' : List Piece), L.length - m = n → m ≤ L.length →
    PExact ds de F qs (L.drop m) (bnd L m) → PExact ds' de' F' qs' (L'.drop m) (bnd L' m) → PiecesRen ρ N qs qs' := by
  refine pexact_pair ds de ds' de' L L' hf F F' hF (PiecesRen ρ N) trivial (fun v _ _ e => ⟨rfl, e⟩) ?_
  intro m h h' b0 rest b0' rest' qs qs' k1 v1 v2 e
  rcases (((tokNs_iff ds de ds' de' ρ N _ L L').mp hx).get m h h').1.2 with ⟨hkt, _⟩ | ⟨_, tg, hok, hn, hv, hv', _, _⟩
  · rw [k1] at hkt; cases hkt
  · rw [hv] at v1; rw [hv'] at v2
    exact ⟨⟨tg, hok, hn, body_cancel v1.symm, body_cancel v2.symm⟩, e⟩

/-- C18 for a change of tag names (and delimiters) in its general form: documents without `unwrap-block` whose tags are
    grammar tags and whose tokens are the normalised pieces under either spelling (`htn`, `htn'` - the conclusion of
    C08): the two spellings of one document are cleaned to the two spellings of one result -/
theorem rename_exact_tn (d0 : Char) (dr : List Char) (e0 : Char) (er : List Char)
    (d0' : Char) (dr' : List Char) (e0' : Char) (er' : List Char)
    (ρ : List Char → List Char) (N : List Char → Prop) (hρ : RenOK ρ N)
    (hd0 : wsChar d0 = false) (hel : ∀ w c, (e0 :: er) = w ++ [c] → wsChar c = false)
    (hd0' : wsChar d0' = false) (hel' : ∀ w c, (e0' :: er') = w ++ [c] → wsChar c = false)
    (ps ps' : List Piece) (hren : PiecesRen ρ N ps ps')
    (hstrip : ∀ p ∈ ps, p.strip (d0 :: dr) (e0 :: er)) (hstrip' : ∀ p ∈ ps', p.strip (d0' :: dr') (e0' :: er'))
    (htn : (tokenize (renderAll (d0 :: dr) (e0 :: er) ps) (d0 :: dr) (e0 :: er)).map (fun t => (t.kind, t.value))
      = tnorm (d0 :: dr) (e0 :: er) [] ps [])
    (htn' : (tokenize (renderAll (d0' :: dr') (e0' :: er') ps') (d0' :: dr') (e0' :: er')).map (fun t => (t.kind, t.value))
      = tnorm (d0' :: dr') (e0' :: er') [] ps' [])
    (cfg : Cfg) (htl : N cfg.tlName) (hrm : N cfg.rmName) (out out' : List Char)
    (hnu : NoUnwrapAttr (parseSource (renderAll (d0 :: dr) (e0 :: er) ps) (d0 :: dr) (e0 :: er)))
    (h : clean (renderAll (d0 :: dr) (e0 :: er) ps) (d0 :: dr) (e0 :: er) cfg = .ok out)
    (h' : clean (renderAll (d0' :: dr') (e0' :: er') ps') (d0' :: dr') (e0' :: er')
      { cfg with tlName := ρ cfg.tlName, rmName := ρ cfg.rmName } = .ok out') :
    ∃ qs qs' F F', out = renderAll (d0 :: dr) (e0 :: er) qs ∧ out' = renderAll (d0' :: dr') (e0' :: er') qs' ∧
      PiecesRen ρ N qs qs' ∧
      PExact (d0 :: dr) (e0 :: er) F qs (survivors (renderAll (d0 :: dr) (e0 :: er) ps) (d0 :: dr) (e0 :: er) cfg) 0 ∧
      WsOnly F (toksBytes (survivors (renderAll (d0 :: dr) (e0 :: er) ps) (d0 :: dr) (e0 :: er) cfg)) ∧
      PExact (d0' :: dr') (e0' :: er') F' qs' (survivors (renderAll (d0' :: dr') (e0' :: er') ps') (d0' :: dr') (e0' :: er')
        { cfg with tlName := ρ cfg.tlName, rmName := ρ cfg.rmName }) 0 ∧
      WsOnly F' (toksBytes (survivors (renderAll (d0' :: dr') (e0' :: er') ps') (d0' :: dr') (e0' :: er')
        { cfg with tlName := ρ cfg.tlName, rmName := ρ cfg.rmName })) := by
  obtain ⟨L, L', eL, eL', qs, qs', F, F', o1, o2, x1, w1, x2, w2, hf, hx, hF⟩ :=
    clean_exact_sim d0 dr e0 er d0' dr' e0' er' hd0 hel hd0' hel'
    (spelling_n _ _ _ _ ρ N (fun _ _ => True) hρ (List.cons_ne_nil _ _) (List.cons_ne_nil _ _) (List.cons_ne_nil _ _) (List.cons_ne_nil _ _))
    (fun _ _ q => tokN_texts q.1) (fun _ _ he h => by rw [he.1]; exact h) ps ps' htn htn'
    (tokNR_of_tnorm _ _ _ _ ρ N ps ps' [] _ _ hren hstrip hstrip' htn htn') cfg _
    (fun e _ he => by rw [he.1]; exact cond_ren ρ N hρ cfg htl hrm e he.2) out out' hnu h h'
  have hres := pexact_ren (d0 :: dr) (e0 :: er) (d0' :: dr') (e0' :: er') ρ N L L' hf ((tokNs_iff _ _ _ _ ρ N _ L L').mpr hx) F F' hF
    _ 0 qs qs' rfl (Nat.zero_le _) x1 x2
  subst eL eL'
  exact ⟨qs, qs', F, F', o1, o2, hres, x1, w1, x2, w2⟩

/-- C18 for a change of tag names (and delimiters), documents without `unwrap-block` whose tags are grammar tags: the
    two spellings of one document are cleaned to the two spellings of one result -/
theorem rename_exact (d0 : Char) (dr : List Char) (e0 : Char) (er : List Char)
    (d0' : Char) (dr' : List Char) (e0' : Char) (er' : List Char)
    (ρ : List Char → List Char) (N : List Char → Prop) (hρ : RenOK ρ N)
    (hd0 : wsChar d0 = false) (hel : ∀ w c, (e0 :: er) = w ++ [c] → wsChar c = false)
    (hd0' : wsChar d0' = false) (hel' : ∀ w c, (e0' :: er') = w ++ [c] → wsChar c = false)
    (ps ps' : List Piece) (hren : PiecesRen ρ N ps ps')
    (hfree : ∀ p ∈ ps, p.fits d0 e0 (d0 :: dr) (e0 :: er)) (hfree' : ∀ p ∈ ps', p.fits d0' e0' (d0' :: dr') (e0' :: er'))
    (cfg : Cfg) (htl : N cfg.tlName) (hrm : N cfg.rmName) (out out' : List Char)
    (hnu : NoUnwrapAttr (parseSource (renderAll (d0 :: dr) (e0 :: er) ps) (d0 :: dr) (e0 :: er)))
    (h : clean (renderAll (d0 :: dr) (e0 :: er) ps) (d0 :: dr) (e0 :: er) cfg = .ok out)
    (h' : clean (renderAll (d0' :: dr') (e0' :: er') ps') (d0' :: dr') (e0' :: er')
      { cfg with tlName := ρ cfg.tlName, rmName := ρ cfg.rmName } = .ok out') :
    ∃ qs qs' F F', out = renderAll (d0 :: dr) (e0 :: er) qs ∧ out' = renderAll (d0' :: dr') (e0' :: er') qs' ∧
      PiecesRen ρ N qs qs' ∧
      PExact (d0 :: dr) (e0 :: er) F qs (survivors (renderAll (d0 :: dr) (e0 :: er) ps) (d0 :: dr) (e0 :: er) cfg) 0 ∧
      WsOnly F (toksBytes (survivors (renderAll (d0 :: dr) (e0 :: er) ps) (d0 :: dr) (e0 :: er) cfg)) ∧
      PExact (d0' :: dr') (e0' :: er') F' qs' (survivors (renderAll (d0' :: dr') (e0' :: er') ps') (d0' :: dr') (e0' :: er')
        { cfg with tlName := ρ cfg.tlName, rmName := ρ cfg.rmName }) 0 ∧
      WsOnly F' (toksBytes (survivors (renderAll (d0' :: dr') (e0' :: er') ps') (d0' :: dr') (e0' :: er')
        { cfg with tlName := ρ cfg.tlName, rmName := ρ cfg.rmName })) :=
  rename_exact_tn d0 dr e0 er d0' dr' e0' er' ρ N hρ hd0 hel hd0' hel' ps ps' hren
    (fun p hp => Piece.strip_of_fits _ _ _ _ p (hfree p hp)) (fun p hp => Piece.strip_of_fits _ _ _ _ p (hfree' p hp))
    (tokens_tnorm d0 dr e0 er ps (fun p hp => Piece.ok_of_fits _ _ _ _ p (hfree p hp)))
    (tokens_tnorm d0' dr' e0' er' ps' (fun p hp => Piece.ok_of_fits _ _ _ _ p (hfree' p hp)))
    cfg htl hrm out out' hnu h h'

/-! Non-vacuity: `tl` / `rm` rewritten to `time-limited` / `removal-marker` (and the closing forms with them), under
    `<` `>` resp. `[[` `]]`. -/
def exρ (n : List Char) : List Char :=
  if n = "tl".toList then "time-limited".toList
  else if n = "/tl".toList then "/time-limited".toList
  else if n = "rm".toList then "removal-marker".toList
  else if n = "/rm".toList then "/removal-marker".toList
  else n
def exN (n : List Char) : Prop := n ∈ ["tl".toList, "/tl".toList, "rm".toList, "/rm".toList]

theorem nameOK_of (n : List Char) (h : (n.head?.any nameStart && n.tail.all nameChar) = true) : NameOK n := by
  cases n with
  | nil => cases h
  | cons c cs =>
    simp only [List.head?_cons, Option.any_some, List.tail_cons, Bool.and_eq_true, List.all_eq_true] at h
    exact ⟨c, cs, rfl, h.1, h.2⟩

/-- each field is a statement about the four names of `exN`; all are checked by one evaluation -/
theorem exρ_ok : RenOK exρ exN := by
  have h : (∀ a, exN a → ∀ b, exN b → exρ a = exρ b → a = b) ∧
      (∀ a, exN a → exρ (trimSlashes a) = trimSlashes (exρ a)) ∧ (∀ a, exN a → exN (trimSlashes a)) ∧
      (∀ a, exN a → ((exρ a).head? = some '/' ↔ a.head? = some '/')) ∧
      (∀ a, exN a → ((exρ a).head?.any nameStart && (exρ a).tail.all nameChar) = true) := by
    decide_lit exN exρ
  exact ⟨fun a b ha hb => h.1 a ha b hb, h.2.1, h.2.2.1, h.2.2.2.1, fun a ha _ => nameOK_of _ (h.2.2.2.2 a ha)⟩

def exTagOpen : TagS := ⟨0, "tl".toList, [([' '], .quoted "to".toList 0 0 '\'' "2000-01-01 00:00:00".toList)], []⟩
def exTagClose : TagS := ⟨0, "/tl".toList, [], []⟩
def exPsA : List Piece :=
  [.text "a\n".toList, .tag 't' "l to='2000-01-01 00:00:00'".toList, .text "\nx\n".toList, .tag '/' "tl".toList, .text "\nb\n".toList]
def exPsB : List Piece :=
  [.text "a\n".toList, .tag 't' "ime-limited to='2000-01-01 00:00:00'".toList, .text "\nx\n".toList,
   .tag '/' "time-limited".toList, .text "\nb\n".toList]

theorem exTagOpen_ok : exTagOpen.ok := by
  refine ⟨nameOK_of _ (by decide_lit exTagOpen), ?_, fun c hc => nomatch hc⟩
  intro sa hsa
  obtain rfl := List.mem_singleton.mp hsa
  exact ⟨by simp, by decide, nameOK_of _ (by decide_lit), Or.inr rfl, by decide_lit⟩
theorem exTagClose_ok : exTagClose.ok :=
  ⟨nameOK_of _ (by decide_lit exTagClose), (by intro sa hsa; cases hsa), (by intro c hc; cases hc)⟩

example : PiecesRen exρ exN exPsA exPsB := by
  refine ⟨rfl, ⟨exTagOpen, exTagOpen_ok, by decide_lit exN exTagOpen, by decide_lit exTagOpen, by decide_lit exTagOpen renTag exρ⟩, rfl,
    ⟨exTagClose, exTagClose_ok, by decide_lit exN exTagClose, by decide_lit exTagClose, by decide_lit exTagClose renTag exρ⟩, rfl, trivial⟩

def exCfgA : Cfg := ⟨"tl".toList, "rm".toList, 1577836800, 0, "+00:00".toList, []⟩
example : (clean (renderAll "<".toList ">".toList exPsA) "<".toList ">".toList exCfgA).toOption = some "a\nb\n".toList := by
  decide_lit exPsA exTagOpen exTagClose exCfgA
example : (clean (renderAll "[[".toList "]]".toList exPsB) "[[".toList "]]".toList
    { exCfgA with tlName := exρ exCfgA.tlName, rmName := exρ exCfgA.rmName }).toOption = some "a\nb\n".toList := by
  decide_lit exPsB exCfgA

end Chiritori.Props.C18
