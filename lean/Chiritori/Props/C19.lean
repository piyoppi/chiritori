import Chiritori.Lemmas.DecideLit
import Chiritori.Props.C04
import Chiritori.Props.C05
/-
  C19 — Cleaning is idempotent and composes over time.

  The property (idempotence, and stepwise = one-shot up to whitespace along non-decreasing chains of
  configurations, for rendered AST documents) is FALSE of the code as it stands: the composition law fails for
  documents in which an element ends a code line (known finding D14, `c19_negation_D14`) and for documents in which
  a wrapper line of an unwrap-block is a tag line of another element (D16, `c19_negation_D16`,
  `c19_negation_D16_stacked`); idempotence fails when stray tags stand around an unwrapped block (D19,
  Props/C19D19.lean).  The witnesses are replayed in the kernel.
  Proved here: along a chain (time advancing, target set growing, same tag names and offset) no element ever becomes
  un-ready, so the removable extents of a fixed source only grow (`ready_monotone`, `extents_grow`: C05/C06 lifted).
  Proved for well-delimited sources: idempotence and the composition law for default-strategy removals
  (`idempotent_default`, Props/C19Idem.lean; `compose_chain`, `compose_default`, Props/C19Chain.lean), and
  idempotence with unwrapped blocks when there are no stray tags, no tag contains a line break and every ready
  unwrap-block can be unwrapped and has no tag on its wrapper lines (`idempotent_unwrap`, Props/C19Unwrap.lean).
  Not proved: the composition law with unwrapped blocks (it is false there: D14, D16).
-/
namespace Chiritori.Props.C19
open Chiritori Chiritori.Spec

/-- `cfg₁ ≤ cfg₂`: same names and offset, time advances, targets grow -/
structure CfgLe (c1 c2 : Cfg) : Prop where
  tl : c1.tlName = c2.tlName
  rm : c1.rmName = c2.rmName
  off : c1.offset = c2.offset
  time : c1.now < c2.now ∨ (c1.now = c2.now ∧ c1.nowNanos ≤ c2.nowNanos)
  targets : ∀ t ∈ c1.targets, t ∈ c2.targets

theorem expired_mono (c1 c2 : Cfg) (h : CfgLe c1 c2) (el : Element) (he : expired c1 el = true) : expired c2 el = true := by
  unfold expired at he ⊢
  rw [← h.off]
  cases hv : attrValue el "to" with
  | none => simp [hv] at he
  | some v =>
    rw [hv] at he
    simp only at he ⊢
    generalize chronoParse (v ++ [' '] ++ c1.offset) = r at he ⊢
    cases r with
    | none => cases he
    | some ex =>
      simp only [Bool.not_eq_true'] at he ⊢
      exact instantLt_mono (c1.now, c1.nowNanos) (c2.now, c2.nowNanos) h.time he

theorem targeted_mono (c1 c2 : Cfg) (h : CfgLe c1 c2) (el : Element) (he : targeted c1 el = true) : targeted c2 el = true := by
  unfold targeted at he ⊢
  cases hv : attrValue el "name" with
  | none => rw [hv] at he; simp at he
  | some v =>
    rw [hv] at he
    simp only [List.contains_iff_mem] at he ⊢
    exact h.targets v he

/-- no element becomes un-ready as time advances and targets are added -/
theorem ready_monotone (c1 c2 : Cfg) (h : CfgLe c1 c2) (el : Element) (he : conditionHolds c1 el = true) :
    conditionHolds c2 el = true := by
  unfold conditionHolds at he ⊢
  rw [← h.tl, ← h.rm]
  simp only [Bool.and_eq_true, Bool.not_eq_true', Bool.or_eq_true, beq_iff_eq, bne_iff_ne, ne_eq] at he ⊢
  obtain ⟨hs, hc⟩ := he
  refine ⟨hs, ?_⟩
  rcases hc with ⟨h1, h2⟩ | ⟨⟨h1, h2⟩, h3⟩
  · exact Or.inl ⟨h1, targeted_mono c1 c2 h el h2⟩
  · exact Or.inr ⟨⟨h1, h2⟩, expired_mono c1 c2 h el h3⟩

/-- the removable extents of a fixed source only grow -/
theorem extents_grow (c1 c2 : Cfg) (h : CfgLe c1 c2) (b : Bytes) (parts : List Part) (i : Nat)
    (hi : inAny (readyExtents c1 b parts) i = true) : inAny (readyExtents c2 b parts) i = true := by
  unfold readyExtents at hi ⊢
  simp only [inAny, List.any_eq_true, List.mem_flatMap] at hi ⊢
  obtain ⟨r, ⟨e, he, hr⟩, hc⟩ := hi
  refine ⟨r, ⟨e, he, ?_⟩, hc⟩
  split at hr
  · rename_i hcond
    rw [if_pos (ready_monotone c1 c2 h e.1 hcond)]
    exact hr
  · simp at hr

theorem idempotent_of_nothing_ready (x : List Char) (ds de : List Char) (cfg : Cfg) (y : List Char)
    (hds : ds ≠ []) (hde : de ≠ []) (_ : clean x ds de cfg = .ok y) (hn : nothingReady y ds de cfg = true) :
    clean y ds de cfg = .ok y := C04.c04 y ds de cfg hds hde hn

theorem skip_stays (cfg : Cfg) (el : Element) (h : hasAttr el "skip" = true) : conditionHolds cfg el = false := by
  simp [conditionHolds, h]

theorem unregistered_stays (cfg : Cfg) (el : Element) (h1 : el.name ≠ cfg.tlName) (h2 : el.name ≠ cfg.rmName) :
    conditionHolds cfg el = false := by
  simp [conditionHolds, h1, h2]

def cfgAt (now : Int) : Cfg := ⟨"tl".toList, "rm".toList, now, 0, "+00:00".toList, []⟩
def d14 : List Char :=
  "<tl to='2003-01-01 00:00:00' unwrap-block>\nif (x) {\n  code <tl to='2001-01-01 00:00:00'>b</tl>\n}\n</tl>\n".toList
def cleanOr (src : List Char) (now : Int) : List Char :=
  match clean src "<".toList ">".toList (cfgAt now) with
  | .ok o => o
  | .error _ => "PANIC".toList
def nonws (s : List Char) : List Char := s.filter fun c => !(c == ' ' || c == '\n' || c == '\t')

/-- the one-shot result, and that the stepwise result differs from it: one evaluation for both -/
theorem d14_runs : cleanOr d14 1041379200 = "  code ".toList ∧
    nonws (cleanOr (cleanOr d14 978307200) 1041379200) ≠ nonws (cleanOr d14 1041379200) := by decide_lit d14

/-- stepwise (2001, then 2003) and one-shot (2003) cleaning of the D14 witness differ beyond whitespace:
    the earlier run joins `code` with the wrapper line, the later run can no longer unwrap -/
theorem c19_negation_D14 :
    nonws (cleanOr (cleanOr d14 978307200) 1041379200) ≠ nonws (cleanOr d14 1041379200) := d14_runs.2

example : cleanOr d14 1041379200 = "  code ".toList := d14_runs.1

def cfgA (now : Int) : Cfg := ⟨"tl".toList, "rm".toList, now, 0, "+00:00".toList, ["a".toList]⟩
def cleanA (src : List Char) (now : Int) : List Char :=
  match clean src "<".toList ">".toList (cfgA now) with
  | .ok o => o
  | .error _ => "PANIC".toList
def d16 : List Char := "pre\n<tl to='2003-01-01 00:00:00' unwrap-block>\n<rm name='a'>\nx\n</rm>\n</tl>\npost\n".toList
def d16b : List Char :=
  "pre\n<tl to='2003-01-01 00:00:00' unwrap-block>\n<rm name='a' unwrap-block>\n{\nx\n}\n</rm>\n</tl>\npost\n".toList

/-- an unwrap-block whose wrapper lines are the tag lines of its only child: the earlier run (2001, target `a`)
    removes the child, the block is then too short to unwrap and its tags are stranded; one run in 2003 removes all -/
theorem c19_negation_D16 :
    cleanA (cleanA d16 978307200) 1041379200 = "pre\n<tl to='2003-01-01 00:00:00' unwrap-block>\n</tl>\npost\n".toList ∧
    cleanA d16 1041379200 = "pre\npost\n".toList := by decide_lit d16

/-- the same with two unwrap-blocks stacked directly on each other -/
theorem c19_negation_D16_stacked :
    cleanA (cleanA d16b 978307200) 1041379200 = "pre\n<tl to='2003-01-01 00:00:00' unwrap-block>\nx\n</tl>\npost\n".toList ∧
    cleanA d16b 1041379200 = "pre\nx\npost\n".toList := by decide_lit d16b

end Chiritori.Props.C19
