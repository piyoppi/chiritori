import Chiritori.Props.C11
/-
  C11 in terms of line numbers (the line of a byte = the number of line breaks in front of it, `nlBefore`).

  For an unwrap-block that is unwrapped and whose two tags contain no line break, with `L` the line of the opening tag
  and `M` the line of the closing tag, the lines that lose text to the removal are `L`, `L + 1`, `M - 1`, `M` and no
  other (`four_lines`); `L + 2 = M - 1` is the case of no inner line.
-/
namespace Chiritori.Props.C11
open Chiritori Chiritori.Spec

theorem nlBefore_succ (b : Bytes) (p : Nat) :
    nlBefore b (p + 1) = nlBefore b p + (if b[p]? = some NL then 1 else 0) := by
  unfold nlBefore
  by_cases hp : p < b.length
  · rw [List.take_succ_eq_append_getElem hp, List.count_append]
    simp only [List.getElem?_eq_getElem hp, Option.some.injEq]
    by_cases h : b[p] = NL <;> simp [h]
  · have h1 : b.take (p + 1) = b := List.take_of_length_le (by omega)
    have h2 : b.take p = b := List.take_of_length_le (by omega)
    have h3 : b[p]? = none := List.getElem?_eq_none (by omega)
    rw [h1, h2, h3]
    simp

theorem nlBefore_mono (b : Bytes) (a c : Nat) (h : a ≤ c) : nlBefore b a ≤ nlBefore b c := by
  induction c with
  | zero => rw [Nat.le_zero.mp h]; exact Nat.le_refl _
  | succ c ih =>
    rcases Nat.le_or_eq_of_le_succ h with h | rfl
    · rw [nlBefore_succ]; exact Nat.le_trans (ih h) (Nat.le_add_right _ _)
    · exact Nat.le_refl _

theorem nlBefore_const (b : Bytes) (a c : Nat) (h : a ≤ c) (hno : ∀ i, a ≤ i → i < c → b[i]? ≠ some NL) :
    nlBefore b c = nlBefore b a := by
  induction c with
  | zero => rw [Nat.le_zero.mp h]
  | succ c ih =>
    rcases Nat.le_or_eq_of_le_succ h with h | rfl
    · rw [nlBefore_succ, if_neg (hno c h (Nat.lt_succ_self c)), ih h (fun i h1 h2 => hno i h1 (Nat.lt_succ_of_lt h2))]
      rfl
    · rfl

theorem nlBefore_after_nl (b : Bytes) (p : Nat) (h : b[p]? = some NL) : nlBefore b (p + 1) = nlBefore b p + 1 := by
  rw [nlBefore_succ, if_pos h]

theorem nlBefore_one_nl (b : Bytes) (a p i : Nat) (hap : a ≤ p) (hp : b[p]? = some NL)
    (h1 : ∀ j, a ≤ j → j < p → b[j]? ≠ some NL) (hai : a ≤ i) (h2 : ∀ j, p < j → j < i → b[j]? ≠ some NL) :
    nlBefore b i = nlBefore b a + (if p < i then 1 else 0) := by
  split
  · rename_i hpi
    rw [nlBefore_const b (p + 1) i hpi (fun j j1 j2 => h2 j j1 j2), nlBefore_after_nl b p hp, nlBefore_const b a p hap h1]
  · rename_i hpi
    exact nlBefore_const b a i hai (fun j j1 j2 => h1 j j1 (by omega))

theorem four_lines (b : Bytes) (st en : Token) (h t : Rng) (h0 : 0 < st.bstop) (hlen : en.bstart ≤ b.length)
    (hst : st.bstart ≤ st.bstop)
    (hnl1 : ∀ i, st.bstart ≤ i → i < st.bstop → b[i]? ≠ some NL)
    (hnl2 : ∀ i, en.bstart ≤ i → i < en.bstop → b[i]? ≠ some NL)
    (hu : unwrapParts b st en = some (h, t)) :
    -- the opening part: lines L and L + 1, up to the line break that ends line L + 1
    (∀ i, h.1 ≤ i → i < h.2 → nlBefore b i = nlBefore b st.bstart ∨ nlBefore b i = nlBefore b st.bstart + 1) ∧
    b[h.2]? = some NL ∧ nlBefore b h.2 = nlBefore b st.bstart + 1 ∧
    -- the closing part: lines M - 1 and M, from the first byte of line M - 1
    (∀ i, t.1 ≤ i → i < t.2 → nlBefore b i + 1 = nlBefore b en.bstart ∨ nlBefore b i = nlBefore b en.bstart) ∧
    0 < t.1 ∧ b[t.1 - 1]? = some NL ∧ nlBefore b t.1 + 1 = nlBefore b en.bstart ∧
    -- at least two lines between the tag lines; the lines strictly between the wrapper lines survive
    nlBefore b st.bstart + 2 ≤ nlBefore b t.1 ∧
    (∀ i, nlBefore b st.bstart + 1 < nlBefore b i → nlBefore b i + 1 < nlBefore b en.bstart → ¬ (h.1 ≤ i ∧ i < h.2) ∧ ¬ (t.1 ≤ i ∧ i < t.2)) := by
  obtain ⟨p1, q1, a1, a2, a3, a4, a5, a6, c1, c2, c3, c4, c5, c6, e1, e2, e3⟩ := parts_lines b st en h t h0 hlen hu
  have hsp : st.bstart ≤ p1 := Nat.le_trans hst a1
  -- from the opening tag to `h.2` the only line break is `p1`; from `t.1` to the end of the closing tag, `q1`
  have open_ : ∀ i, st.bstart ≤ i → i ≤ h.2 → nlBefore b i = nlBefore b st.bstart + (if p1 < i then 1 else 0) :=
    fun i hi1 hi2 => nlBefore_one_nl b st.bstart p1 i hsp a2
      (fun j j1 j2 => if hj : j < st.bstop then hnl1 j j1 hj else a3 j (Nat.le_of_not_lt hj) j2) hi1
      (fun j j1 j2 => a6 j j1 (Nat.lt_of_lt_of_le j2 hi2))
  have close : ∀ i, t.1 ≤ i → i ≤ en.bstart ∨ i ≤ en.bstop →
      nlBefore b i = nlBefore b t.1 + (if q1 < i then 1 else 0) :=
    fun i hi1 hi2 => nlBefore_one_nl b t.1 q1 i c4 c2 c6 hi1
      (fun j j1 j2 => if hj : j < en.bstart then c3 j j1 hj else hnl2 j (Nat.le_of_not_lt hj)
        (hi2.elim (fun h => absurd (Nat.lt_of_lt_of_le j2 h) hj) (Nat.lt_of_lt_of_le j2)))
  have l_h2 : nlBefore b h.2 = nlBefore b st.bstart + 1 := by
    rw [open_ h.2 (Nat.le_trans hsp (Nat.le_of_lt a4)) (Nat.le_refl _), if_pos a4]
  have l_en : nlBefore b en.bstart = nlBefore b t.1 + 1 := by
    rw [close en.bstart (Nat.le_trans c4 (Nat.le_of_lt c1)) (Or.inl (Nat.le_refl _)), if_pos c1]
  have l_mid : nlBefore b st.bstart + 2 ≤ nlBefore b t.1 := by
    have := nlBefore_mono b (h.2 + 1) t.1 e3
    rwa [nlBefore_after_nl b h.2 a5, l_h2] at this
  refine ⟨fun i hi1 hi2 => ?_, a5, l_h2, fun i hi1 hi2 => ?_, Nat.zero_lt_of_lt e3, c5, l_en.symm, l_mid,
    fun i hi1 hi2 => ⟨?_, ?_⟩⟩
  · rw [open_ i (e1 ▸ hi1) (Nat.le_of_lt hi2)]
    split
    · exact Or.inr rfl
    · exact Or.inl rfl
  · rw [close i hi1 (Or.inr (e2 ▸ Nat.le_of_lt hi2)), l_en]
    split
    · exact Or.inr rfl
    · exact Or.inl rfl
  · rintro ⟨_, g2⟩
    exact Nat.not_le_of_lt hi1 (l_h2 ▸ nlBefore_mono b i h.2 (Nat.le_of_lt g2))
  · rintro ⟨g1, _⟩
    exact Nat.not_le_of_lt (Nat.lt_of_add_lt_add_right (l_en ▸ hi2)) (nlBefore_mono b t.1 i g1)

/-! an instance: four inner lines, the parts are lines 2-3 and 8-9 of a ten-line text -/
example :
    let s := "a\n  <rm name='a' unwrap-block>\n  if {\n1\n2\n3\n4\n  }\n  </rm>\nz\n".toList
    (match parseSource s "<".toList ">".toList with
     | [_, .element _ st en _, _] =>
       (match unwrapParts (bytesOf s) st en with
        | some (h, t) => (nlBefore (bytesOf s) h.1, nlBefore (bytesOf s) (h.2 - 1), nlBefore (bytesOf s) t.1, nlBefore (bytesOf s) (t.2 - 1)) == (1, 2, 7, 8)
        | none => false)
     | _ => false) = true := by
  intro s; rw [show s = _ from String.toList_ofList]; decide +kernel

end Chiritori.Props.C11
