import Chiritori.Lemmas.DecideLit
import Chiritori.Lemmas.FormatBlock
/-
  C12 — Unwrap-block dedents the surviving body uniformly and safely.

  What is proved is the shape of the ranges the block indent remover returns, for every text and every pair of seam
  positions.  Each range belongs to one line, starting at `ls` with its first non-blank byte at `ip`, and is
  `[min(ls+t, ip), min(min(ls+t, ip) + s, ip))`: with `w = ip - ls` the indentation of the line it starts at column
  `min(t, w)` and removes `min(s, w - min(t, w))` bytes, so the new indentation is `w` when `w ≤ t` and `max(w - s, t)`
  otherwise - every line is shifted by the same `s`, never left of the tag column, and lines at or left of the tag
  column are untouched.  Here `t` is the column of the head seam (the bytes between the preceding line break and the
  seam, 0 if anything but blanks precedes it) and `s` the indentation of the first block line minus `t`, truncated at
  0; only blanks are consumed, at character boundaries.  Conversely every line that starts at or behind the first
  block line and whose line break lies before the tail seam gets exactly that range (when it is not empty), so no
  inner line is skipped.
  The link from the seam positions in the text after removal back to the source's tag column is in
  Props/C12Source.lean, the composition over the blocks of a document in Props/C12Doc.lean.  Not covered: an
  unwrap-block opening on the first line of the file, or on the second when the first is empty (known finding D11).
-/
namespace Chiritori.Props.C12
open Chiritori

/-- the dedent range of a line starting at `ls` whose first non-blank byte is at `ip` -/
def lineRange (ls ip t s : Nat) : Nat × Nat := (min (ls + t) ip, min (min (ls + t) ip + s) ip)

theorem lineRange_arith (ls ip t s : Nat) (h : ls ≤ ip) :
    (lineRange ls ip t s).1 = ls + min t (ip - ls) ∧
    (lineRange ls ip t s).2 - (lineRange ls ip t s).1 = min s (ip - ls - min t (ip - ls)) := by
  -- with `w` the width of the indentation and `w = min t w + d`, every term is a sum
  obtain ⟨w, rfl⟩ := Nat.exists_eq_add_of_le h
  obtain ⟨d, hd⟩ := Nat.exists_eq_add_of_le (Nat.min_le_right t w)
  simp only [lineRange, Nat.add_sub_cancel_left, Nat.add_min_add_left]
  refine ⟨trivial, ?_⟩
  generalize min t w = m at hd
  rw [hd, ← Nat.add_assoc, Nat.add_min_add_left, Nat.add_sub_cancel_left, Nat.add_sub_cancel_left]

theorem dedent_formula (w t s : Nat) :
    w - min s (w - min t w) = if w ≤ t then w else max (w - s) t := by
  split
  · rename_i hw
    rw [Nat.min_eq_right hw, Nat.sub_self, Nat.min_zero, Nat.sub_zero]
  · rename_i hw
    -- `w = t + d`: the line moves left by `min s d`
    obtain ⟨d, rfl⟩ := Nat.exists_eq_add_of_le (Nat.le_of_lt (Nat.lt_of_not_le hw))
    rw [Nat.min_eq_left (Nat.le_add_right t d), Nat.add_sub_cancel_left]
    rcases Nat.le_total s d with hs | hs
    · rw [Nat.min_eq_left hs, Nat.max_eq_left (Nat.le_sub_of_add_le (Nat.add_le_add_left hs t))]
    · rw [Nat.min_eq_right hs, Nat.add_sub_cancel, Nat.max_eq_right (Nat.sub_le_of_le_add (Nat.add_le_add_left hs t))]

theorem blockLoop_shape (b : Bytes) (endPos t s fuel cur : Nat) :
    ∀ r ∈ blockLoop b endPos t s fuel cur,
      ∃ ls ip, cur ≤ ls ∧ (ls = cur ∨ (0 < ls ∧ b[ls - 1]? = some (.lead '\n'))) ∧
        findNextChar b ls = some ip ∧ r = lineRange ls ip t s ∧ r.1 ≠ r.2 := by
  intro r hr
  obtain ⟨ls, _, ip, h1, h2, _, _, _, hip, hr, hne⟩ := mem_blockLoop b endPos t s r fuel cur hr
  exact ⟨ls, ip, h1, h2, hip, hr, hne⟩

theorem blockLoop_complete (b : Bytes) (endPos t s : Nat) : ∀ (fuel cur ls lb ip : Nat),
    0 < cur → cur ≤ ls → (ls = cur ∨ b[ls - 1]? = some (.lead '\n') ∧ cur < ls) →
    ls ≤ lb → b[lb]? = some (.lead '\n') → (∀ i, ls ≤ i → i < lb → b[i]? ≠ some (.lead '\n')) →
    lb + 1 ≤ endPos → ls - cur < fuel →
    findNextChar b ls = some ip → (lineRange ls ip t s).1 ≠ (lineRange ls ip t s).2 →
    lineRange ls ip t s ∈ blockLoop b endPos t s fuel cur := by
  intro fuel
  induction fuel with
  | zero => intro _ _ _ _ _ _ _ _ _ _ _ hf; omega
  | succ fuel ih =>
    intro cur ls lb ip h0 hle hstart hlb1 hlb2 hlb3 hend hf hip hne
    apply (mem_blockLoop_succ _ _ _ _ _ _ _).mpr
    by_cases hc : ls = cur
    · subst hc
      exact ⟨lb, Nat.lt_of_le_of_lt hlb1 hend,
        (findNextLB_eq_some_iff b ls lb false).mpr ⟨h0, hlb1, hlb2, fun i a c => ⟨hlb3 i a c, nofun⟩⟩,
        hend, Or.inl ⟨ip, hip, rfl, hne⟩⟩
    · -- the line of `cur` ends at or before the line break in front of `ls`
      have hst := hstart.resolve_left hc
      obtain ⟨lb', hx, hle'⟩ := findNextLB_false_le b cur (ls - 1) h0 (Nat.le_sub_one_of_lt hst.2) hst.1
      have hcl := ((findNextLB_eq_some_iff b cur lb' false).mp hx).2.1
      have hls : lb' + 1 ≤ ls := Nat.add_le_of_le_sub (Nat.zero_lt_of_lt hst.2) hle'
      have hle2 : ls ≤ endPos := Nat.le_trans hlb1 (Nat.le_of_succ_le hend)
      refine ⟨lb', Nat.lt_of_le_of_lt hcl (Nat.lt_of_lt_of_le hls hle2), hx, Nat.le_trans hls hle2, Or.inr ?_⟩
      refine ih (lb' + 1) ls lb ip (Nat.succ_pos _) hls ?_ hlb1 hlb2 hlb3 hend ?_ hip hne
      · exact (Nat.eq_or_lt_of_le hls).elim (fun e => Or.inl e.symm) (fun l => Or.inr ⟨hst.1, l⟩)
      · -- the loop has moved on from `cur`, so less fuel suffices
        exact Nat.lt_of_lt_of_le (Nat.sub_lt_sub_left hst.2 (Nat.lt_succ_of_le hcl)) (Nat.le_of_lt_succ hf)

/-- column of the head seam and shift, as the code computes them -/
def tagColumn (b : Bytes) (startPos : Nat) : Nat :=
  match findPrevLB b startPos true with
  | some p => startPos - p - 1
  | none => 0

def firstLine (b : Bytes) (startPos : Nat) : Option Nat :=
  ((b.drop startPos).findIdx? (fun x => x == .lead '\n')).map fun ofs => startPos + ofs + 1

theorem fmtBlockIndent_eq (b : Bytes) (startPos endPos : Nat) :
    fmtBlockIndent b startPos endPos =
      match firstLine b startPos with
      | some cur =>
        blockLoop b endPos (tagColumn b startPos) (getIndentLen b cur - tagColumn b startPos) (b.length + 1) cur
      | none => [] := by
  unfold fmtBlockIndent firstLine tagColumn
  cases (b.drop startPos).findIdx? (fun x => x == .lead '\n') <;> rfl

theorem fmtBlockIndent_shape (b : Bytes) (startPos endPos : Nat) :
    ∀ r ∈ fmtBlockIndent b startPos endPos,
      ∃ cur ls ip, firstLine b startPos = some cur ∧ cur ≤ ls ∧
        (ls = cur ∨ (0 < ls ∧ b[ls - 1]? = some (.lead '\n'))) ∧ findNextChar b ls = some ip ∧
        r = lineRange ls ip (tagColumn b startPos) (getIndentLen b cur - tagColumn b startPos) ∧ r.1 ≠ r.2 := by
  intro r hr
  rw [fmtBlockIndent_eq] at hr
  cases hf : firstLine b startPos with
  | none => rw [hf] at hr; cases hr
  | some cur =>
    rw [hf] at hr
    obtain ⟨ls, ip, h⟩ := blockLoop_shape b endPos _ _ _ _ r hr
    exact ⟨cur, ls, ip, rfl, h⟩

theorem fmtBlockIndent_complete (b : Bytes) (startPos endPos cur ls lb ip : Nat)
    (hcur : firstLine b startPos = some cur) (hle : cur ≤ ls)
    (hstart : ls = cur ∨ b[ls - 1]? = some (.lead '\n') ∧ cur < ls)
    (hlb1 : ls ≤ lb) (hlb2 : b[lb]? = some (.lead '\n')) (hlb3 : ∀ i, ls ≤ i → i < lb → b[i]? ≠ some (.lead '\n'))
    (hend : lb + 1 ≤ endPos) (hip : findNextChar b ls = some ip)
    (hne : (lineRange ls ip (tagColumn b startPos) (getIndentLen b cur - tagColumn b startPos)).1 ≠
           (lineRange ls ip (tagColumn b startPos) (getIndentLen b cur - tagColumn b startPos)).2) :
    lineRange ls ip (tagColumn b startPos) (getIndentLen b cur - tagColumn b startPos) ∈ fmtBlockIndent b startPos endPos := by
  rw [fmtBlockIndent_eq, hcur]
  have h0 : 0 < cur := by
    obtain ⟨ofs, _, rfl⟩ := Option.map_eq_some_iff.mp hcur
    exact Nat.succ_pos _
  have hlt : ls < b.length := Nat.lt_of_le_of_lt hlb1 (lt_of_getElem?_some _ _ _ hlb2)
  exact blockLoop_complete b endPos _ _ (b.length + 1) cur ls lb ip h0 hle hstart hlb1 hlb2 hlb3 hend
    (Nat.lt_succ_of_le (Nat.le_trans (Nat.sub_le ls cur) (Nat.le_of_lt hlt))) hip hne

theorem only_blanks (s : List Char) (startPos endPos : Nat) :
    ∀ r ∈ fmtBlockIndent (bytesOf s) startPos endPos, RangeOK s r := fmtBlockIndent_ok s startPos endPos

/-! Kernel-evaluated instance: the doc-test of block_indent_remover.rs and a line left of the tag column. -/
example : fmtBlockIndent (bytesOf "foo\n\n  fuga\n  piyo\n\nbar".toList) 4 19 = [(5, 7), (12, 14)] := by decide_lit
example : fmtBlockIndent (bytesOf "x\n  \n      a\n b\n    c\n  \nz".toList) 4 22 = [(7, 11), (18, 20)] := by decide_lit

end Chiritori.Props.C12
