import Chiritori.Lemmas.DecideLit
import Chiritori.Lemmas.Time
import Chiritori.Lemmas.Decision
/-
  C05 — Expiry decision: removed exactly when now >= `to` at the configured offset.

  chrono's parser is *modelled* (Model/Time.lean); what is proved here is proved of that model:
  * `calendar_step`, `calendar_origin`: the day count used for the instant is the proleptic Gregorian one;
  * `canonical_parse`, `decision`: for every canonical `YYYY-MM-DD HH:MM:SS` and every offset `±HH:MM` / `±HHMM`
    the element is ready exactly when `now ≥ epoch(to) − offset`; equality counts as expired;
  * `missing_to` and the malformed-class lemmas: never ready;
  * `monotone`: for a fixed element the decision only switches from kept to removed as time advances.
-/
namespace Chiritori.Props.C05
open Chiritori Chiritori.Spec

theorem calendar_origin : daysFromCivil 1970 1 1 = 0 := by decide
theorem calendar_step (x : Date) (h : x.valid) :
    (nextDay x).valid ∧ daysFromCivil (nextDay x).y (nextDay x).m (nextDay x).d = daysFromCivil x.y x.m x.d + 1 :=
  ⟨nextDay_valid x h, daysFromCivil_nextDay x h⟩

def renderTo (Y M D h m s : Nat) : List Char :=
  d4 Y ++ ('-' :: (d2 M ++ ('-' :: (d2 D ++ (' ' :: (d2 h ++ (':' :: (d2 m ++ (':' :: d2 s)))))))))

def renderOff (neg : Bool) (hh mm : Nat) (colon : Bool) : List Char :=
  (if neg then '-' else '+') :: (d2 hh ++ ((if colon then [':'] else []) ++ d2 mm))

def offSeconds (neg : Bool) (hh mm : Nat) : Int :=
  if neg then -((hh * 3600 + mm * 60 : Nat) : Int) else ((hh * 3600 + mm * 60 : Nat) : Int)

theorem scanOffset_render (neg : Bool) (hh mm : Nat) (colon : Bool) (h1 : hh < 100) (h2 : mm < 60) (rest : List Char) :
    scanOffset (renderOff neg hh mm colon ++ rest) = some (offSeconds neg hh mm, rest) := by
  have a1 : hh / 10 < 10 := Nat.div_lt_of_lt_mul h1
  have a2 := mod_ten_lt hh
  have a3 : mm / 10 < 10 := Nat.div_lt_of_lt_mul (Nat.lt_trans h2 (by decide))
  have a4 := mod_ten_lt mm
  have a5 : mm / 10 ≤ 5 := Nat.le_of_lt_succ (Nat.div_lt_of_lt_mul h2)
  have hc : colonOrSpace ((if colon then [':'] else []) ++ dch (mm / 10) :: dch (mm % 10) :: rest) =
      dch (mm / 10) :: dch (mm % 10) :: rest := by
    have : ¬ (dch (mm / 10) = ':' ∨ isWhitespace (dch (mm / 10)) = true) := by
      simp [dch_ne_colon _ a3, notWs_dch _ a3]
    cases colon
    · rw [if_neg Bool.false_ne_true, List.nil_append, colonOrSpace, if_neg this]
    · rw [if_pos rfl, List.cons_append, List.nil_append, colonOrSpace, if_pos (Or.inl rfl), colonOrSpace, if_neg this]
  have hsign : ((if neg = true then '-' else '+') = '+' ∨ (if neg = true then '-' else '+') = '-' ∨
      (if neg = true then '-' else '+') = '−') := by cases neg <;> decide
  have e : ((hh / 10 * 10 + hh % 10) * 3600 + (mm / 10 * 10 + mm % 10) * 60 : Nat) = hh * 3600 + mm * 60 := by
    rw [Nat.div_add_mod', Nat.div_add_mod']
  simp only [scanOffset, renderOff, offSeconds, d2, List.cons_append, List.append_assoc, List.nil_append, hc, hsign,
    isDigit_dch _ a1, isDigit_dch _ a2, isDigit_dch _ a3, isDigit_dch _ a4, digitVal_dch _ a1, digitVal_dch _ a2,
    digitVal_dch _ a3, digitVal_dch _ a4, a5, and_self, if_true, e]
  cases neg <;> simp

theorem trimStartWs_renderOff (neg : Bool) (hh mm : Nat) (colon : Bool) (r : List Char) :
    trimStartWs (renderOff neg hh mm colon ++ r) = renderOff neg hh mm colon ++ r :=
  trimStartWs_cons_of_not_ws (by cases neg <;> decide) _

theorem canonical_parse_tail (Y M D h m s hh mm : Nat) (neg colon : Bool) (tail : List Char)
    (hY : Y < 10000) (hM : M < 100) (hD : D < 100) (hh' : h < 100) (hm : m < 100) (hs : s < 100)
    (hoh : hh < 100) (hom : mm < 60) :
    parseFields (renderTo Y M D h m s ++ [' '] ++ renderOff neg hh mm colon ++ tail)
      = if tail = [] then some ⟨(Y : Int), M, D, h, m, s, offSeconds neg hh mm⟩ else none := by
  have hsp : isWhitespace ' ' = true := by decide
  simp only [parseFields, renderTo, List.append_assoc, List.cons_append, List.nil_append, bind, Option.bind_some,
    parseYear_d4 Y hY, literal_cons, parseNum2_d2 M hM, parseNum2_d2 D hD, trimStartWs_cons_ws hsp, trimStartWs_d2 h hh',
    parseNum2_d2 h hh', parseNum2_d2 m hm, parseNum2_d2 s hs, trimStartWs_renderOff,
    scanOffset_render neg hh mm colon hoh hom tail]
  by_cases ht : tail = [] <;> simp [ht]

theorem canonical_parse (Y M D h m s hh mm : Nat) (neg colon : Bool)
    (hY : Y < 10000) (hM : M < 100) (hD : D < 100) (hh' : h < 100) (hm : m < 100) (hs : s < 100)
    (hoh : hh < 100) (hom : mm < 60) :
    parseFields (renderTo Y M D h m s ++ [' '] ++ renderOff neg hh mm colon)
      = some ⟨(Y : Int), M, D, h, m, s, offSeconds neg hh mm⟩ := by
  have := canonical_parse_tail Y M D h m s hh mm neg colon [] hY hM hD hh' hm hs hoh hom
  rwa [List.append_nil, if_pos rfl] at this

/-- trailing characters after the offset (a `to` value that already carries a zone, junk after the offset string) -/
theorem trailing_rejected (Y M D h m s hh mm : Nat) (neg colon : Bool) (c : Char) (rest : List Char)
    (hY : Y < 10000) (hM : M < 100) (hD : D < 100) (hh' : h < 100) (hm : m < 100) (hs : s < 100)
    (hoh : hh < 100) (hom : mm < 60) :
    chronoParse (renderTo Y M D h m s ++ [' '] ++ renderOff neg hh mm colon ++ c :: rest) = none := by
  rw [chronoParse, canonical_parse_tail Y M D h m s hh mm neg colon (c :: rest) hY hM hD hh' hm hs hoh hom,
    if_neg (List.cons_ne_nil c rest)]
  rfl

theorem resolve_valid (Y M D h m s : Nat) (off : Int) (hY : Y < 10000) (hM1 : 1 ≤ M) (hM2 : M ≤ 12)
    (hD1 : 1 ≤ D) (hD2 : D ≤ daysInMonth Y M) (hh : h < 24) (hm : m < 60) (hs : s < 60)
    (ho1 : -86400 < off) (ho2 : off < 86400) :
    resolve ⟨(Y : Int), M, D, h, m, s, off⟩ = some (epochOf Y M D h m s - off, 0) := by
  have hd31 := daysInMonth_le (Y : Int) M
  have hbm := daysBeforeMonth_le (Y : Int) M
  have hby := daysBeforeYear_bounds Y (Int.natCast_nonneg Y) (by omega)
  have lo : daysFromCivil minYear 1 1 = -96465292 := by decide +kernel
  have hi : daysFromCivil maxYear 12 31 = 95026236 := by decide +kernel
  have hs60 : s ≠ 60 := by omega
  rw [resolve_eq_some_iff]
  simp only [if_neg hs60, lo, hi]
  refine ⟨⟨hM1, hM2⟩, ⟨hD1, Nat.le_trans hD2 hd31⟩, by omega, by omega, by omega, ?_, hD2, ⟨ho1, ho2⟩, ?_, trivial⟩
  · unfold minYear maxYear; omega
  · unfold epochOf daysFromCivil
    omega

/-- Main decision theorem: a time-limited element whose first `to` attribute has a canonical value, under a
    canonical offset, is ready exactly when the current instant is at or after the wall-clock time read at that
    offset; equality counts as expired. -/
theorem decision (cfg : Cfg) (el : Element) (Y M D h m s hh mm : Nat) (neg colon : Bool)
    (hto : attrValue el "to" = some (renderTo Y M D h m s))
    (hoff : cfg.offset = renderOff neg hh mm colon)
    (hY : Y < 10000) (hM1 : 1 ≤ M) (hM2 : M ≤ 12) (hD1 : 1 ≤ D) (hD2 : D ≤ daysInMonth Y M)
    (hh' : h < 24) (hm : m < 60) (hs : s < 60) (hoh : hh < 24) (hom : mm < 60) :
    timeIsRemoval cfg el = true ↔ cfg.now ≥ epochOf Y M D h m s - offSeconds neg hh mm := by
  have hp := canonical_parse Y M D h m s hh mm neg colon hY (Nat.lt_of_le_of_lt hM2 (by decide))
    (Nat.lt_of_le_of_lt (Nat.le_trans hD2 (daysInMonth_le Y M)) (by decide)) (Nat.lt_trans hh' (by decide))
    (Nat.lt_trans hm (by decide)) (Nat.lt_trans hs (by decide)) (Nat.lt_trans hoh (by decide)) hom
  have ho : -86400 < offSeconds neg hh mm ∧ offSeconds neg hh mm < 86400 := by
    unfold offSeconds; split <;> omega
  have hr := resolve_valid Y M D h m s (offSeconds neg hh mm) hY hM1 hM2 hD1 hD2 hh' hm hs ho.1 ho.2
  simp only [timeIsRemoval_iff, hto, hoff, Option.some.injEq, exists_eq_left', chronoParse, hp, Option.bind_some, hr,
    instantLt]
  simp

theorem missing_to (cfg : Cfg) (el : Element) (h : attrValue el "to" = none) : timeIsRemoval cfg el = false := by
  rw [timeIsRemoval_eq_expired, expired, h]

theorem unparseable_never_ready (cfg : Cfg) (el : Element) (v : List Char) (hv : attrValue el "to" = some v)
    (hp : chronoParse (v ++ [' '] ++ cfg.offset) = none) : timeIsRemoval cfg el = false := by
  rw [timeIsRemoval_eq_expired, expired, hv]
  simp only [hp]

/-- out-of-range fields are rejected whatever the other fields are -/
theorem resolve_out_of_range (f : Fields)
    (h : f.month = 0 ∨ f.month > 12 ∨ f.day = 0 ∨ f.day > daysInMonth f.year f.month ∨ f.hour > 23 ∨
      f.minute > 59 ∨ f.second > 60 ∨ f.off ≥ 86400 ∨ f.off ≤ -86400) : resolve f = none := by
  cases hr : resolve f with
  | none => rfl
  | some i =>
    have := (resolve_eq_some_iff f i).mp hr
    omega

/-- a date separator other than `-` (`2020/01/01 ...`) -/
theorem bad_date_separator (Y : Nat) (hY : Y < 10000) (c : Char) (hc : c ≠ '-') (rest : List Char) :
    parseFields (d4 Y ++ c :: rest) = none := by
  simp only [parseFields, bind, parseYear_d4 Y hY, Option.bind_some, literal, if_neg hc, Option.bind_none]

/-- anything but blanks and digits between date and time (`2020-01-01T00:00:00`), or no time at all -/
theorem bad_date_time_separator (Y M D : Nat) (hY : Y < 10000) (hM : M < 100) (hD : D < 100) (c : Char)
    (hc1 : isWhitespace c = false) (hc2 : isDigit c = false) (rest : List Char) :
    parseFields (d4 Y ++ ('-' :: (d2 M ++ ('-' :: (d2 D ++ c :: rest))))) = none := by
  have : parseNum2 (c :: rest) = none := by
    rw [parseNum2, trimStartWs_cons_of_not_ws hc1, scanNumber, scanDigits, if_neg (by rw [hc2]; decide)]
    rfl
  simp only [parseFields, bind, parseYear_d4 Y hY, Option.bind_some, literal_cons, parseNum2_d2 M hM, parseNum2_d2 D hD,
    trimStartWs_cons_of_not_ws hc1, this, Option.bind_none]

theorem monotone (cfg : Cfg) (el : Element) (now' : Int) (h : cfg.now ≤ now')
    (hr : timeIsRemoval cfg el = true) : timeIsRemoval { cfg with now := now' } el = true := by
  obtain ⟨v, hv, ex, hp, hlt⟩ := (timeIsRemoval_iff cfg el).mp hr
  exact (timeIsRemoval_iff _ el).mpr ⟨v, hv, ex, hp, instantLt_mono (cfg.now, cfg.nowNanos) (now', cfg.nowNanos)
    ((Int.lt_or_eq_of_le h).imp_right fun e => ⟨e, Nat.le_refl _⟩) hlt⟩

/-! Kernel-evaluated instances. 2000-01-01 00:00:00 +09:00 = 946652400. -/
example : chronoParse "2000-01-01 00:00:00 +09:00".toList = some (946652400, 0) := by decide_lit
example : chronoParse "2021-02-29 00:00:00 +00:00".toList = none := by decide_lit
example : chronoParse "2020-01-01T00:00:00 +00:00".toList = none := by decide_lit
example : chronoParse "2020-01-01 00:00:00 +24:00".toList = none := by decide_lit
example : chronoParse "2020-01-01 00:00:00 +09:60".toList = none := by decide_lit
example : chronoParse "2020-01-01 00:00:00 +09:00 +00:00".toList = none := by decide_lit

end Chiritori.Props.C05
