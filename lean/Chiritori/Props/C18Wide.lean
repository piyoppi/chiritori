import Chiritori.Lemmas.DecideLit
import Chiritori.Props.C18RenameLines
import Chiritori.Props.C08Wide
/-
  C18 byte for byte on the wide region of C08: the texts of the document may contain the characters of both delimiter
  pairs - the first ones included - as long as the pieces fit both pairs in the sense of `wideOK` (Props/C08Wide.lean)
  and the tag bodies can be stripped of both pairs.

  What the conclusions say: there is ONE piece list `qs` of which `out` is the rendering under the first spelling and
  `out'` the rendering under the second; and `qs` is, piece by piece, the list of the tokens of the source that survive
  the removal of the ready elements (`survivors`): a tag piece is an element token as it stands, a text piece is a text
  token minus the bytes of `F`, which are whitespace (`PExact`, `WsOnly`; `pexact_tags`: as many pieces as surviving
  tokens, the tags of `qs` are the surviving tags in order).  Without that link a text piece could swallow what looks
  like a tag.
-/
namespace Chiritori.Props.C18
open Chiritori Chiritori.Spec Chiritori.Props.C19

theorem respell_exact_wide (d0 : Char) (dr : List Char) (e0 : Char) (er : List Char)
    (d0' : Char) (dr' : List Char) (e0' : Char) (er' : List Char)
    (hd0 : wsChar d0 = false) (hel : ∀ w c, (e0 :: er) = w ++ [c] → wsChar c = false)
    (hd0' : wsChar d0' = false) (hel' : ∀ w c, (e0' :: er') = w ++ [c] → wsChar c = false)
    (ps : List Piece)
    (hw : wideOK (d0 :: dr) (e0 :: er) ps [] = true) (hw' : wideOK (d0' :: dr') (e0' :: er') ps [] = true)
    (hstrip : ∀ p ∈ ps, p.strip (d0 :: dr) (e0 :: er) ∧ p.strip (d0' :: dr') (e0' :: er'))
    (cfg : Cfg) (out out' : List Char)
    (hnu : NoUnwrapAttr (parseSource (renderAll (d0 :: dr) (e0 :: er) ps) (d0 :: dr) (e0 :: er)))
    (h : clean (renderAll (d0 :: dr) (e0 :: er) ps) (d0 :: dr) (e0 :: er) cfg = .ok out)
    (h' : clean (renderAll (d0' :: dr') (e0' :: er') ps) (d0' :: dr') (e0' :: er') cfg = .ok out') :
    ∃ qs F F', out = renderAll (d0 :: dr) (e0 :: er) qs ∧ out' = renderAll (d0' :: dr') (e0' :: er') qs ∧
      PExact (d0 :: dr) (e0 :: er) F qs (survivors (renderAll (d0 :: dr) (e0 :: er) ps) (d0 :: dr) (e0 :: er) cfg) 0 ∧
      WsOnly F (toksBytes (survivors (renderAll (d0 :: dr) (e0 :: er) ps) (d0 :: dr) (e0 :: er) cfg)) ∧
      PExact (d0' :: dr') (e0' :: er') F' qs (survivors (renderAll (d0' :: dr') (e0' :: er') ps) (d0' :: dr') (e0' :: er') cfg) 0 ∧
      WsOnly F' (toksBytes (survivors (renderAll (d0' :: dr') (e0' :: er') ps) (d0' :: dr') (e0' :: er') cfg)) :=
  respell_exact_tn d0 dr e0 er d0' dr' e0' er' hd0 hel hd0' hel' ps hstrip
    (C08.tokenize_wide_tnorm d0 dr e0 er ps hw) (C08.tokenize_wide_tnorm d0' dr' e0' er' ps hw')
    cfg out out' hnu h h'

theorem list_lines_respelled_wide (d0 : Char) (dr : List Char) (e0 : Char) (er : List Char)
    (d0' : Char) (dr' : List Char) (e0' : Char) (er' : List Char)
    (hnl : ∀ c ∈ (d0 :: dr) ++ (e0 :: er), c ≠ '\n') (hnl' : ∀ c ∈ (d0' :: dr') ++ (e0' :: er'), c ≠ '\n')
    (ps : List Piece)
    (hw : wideOK (d0 :: dr) (e0 :: er) ps [] = true) (hw' : wideOK (d0' :: dr') (e0' :: er') ps [] = true)
    (hstrip : ∀ p ∈ ps, p.strip (d0 :: dr) (e0 :: er) ∧ p.strip (d0' :: dr') (e0' :: er'))
    (cfg : Cfg)
    (hnu : NoUnwrapAttr (parseSource (renderAll (d0 :: dr) (e0 :: er) ps) (d0 :: dr) (e0 :: er))) :
    (listMarkers (renderAll (d0 :: dr) (e0 :: er) ps) (d0 :: dr) (e0 :: er) cfg).map
        (fun x => lineRangeOf (bytesOf (renderAll (d0 :: dr) (e0 :: er) ps)) (x.1.start, x.1.stop)) =
    (listMarkers (renderAll (d0' :: dr') (e0' :: er') ps) (d0' :: dr') (e0' :: er') cfg).map
        (fun x => lineRangeOf (bytesOf (renderAll (d0' :: dr') (e0' :: er') ps)) (x.1.start, x.1.stop)) :=
  list_lines_respelled_tn d0 dr e0 er d0' dr' e0' er' hnl hnl' ps hstrip
    (C08.tokenize_wide_tnorm d0 dr e0 er ps hw) (C08.tokenize_wide_tnorm d0' dr' e0' er' ps hw') cfg hnu

theorem rename_exact_wide (d0 : Char) (dr : List Char) (e0 : Char) (er : List Char)
    (d0' : Char) (dr' : List Char) (e0' : Char) (er' : List Char)
    (ρ : List Char → List Char) (N : List Char → Prop) (hρ : RenOK ρ N)
    (hd0 : wsChar d0 = false) (hel : ∀ w c, (e0 :: er) = w ++ [c] → wsChar c = false)
    (hd0' : wsChar d0' = false) (hel' : ∀ w c, (e0' :: er') = w ++ [c] → wsChar c = false)
    (ps ps' : List Piece) (hren : PiecesRen ρ N ps ps')
    (hw : wideOK (d0 :: dr) (e0 :: er) ps [] = true) (hw' : wideOK (d0' :: dr') (e0' :: er') ps' [] = true)
    (hstrip : ∀ p ∈ ps, p.strip (d0 :: dr) (e0 :: er)) (hstrip' : ∀ p ∈ ps', p.strip (d0' :: dr') (e0' :: er'))
    (cfg : Cfg) (htl : N cfg.tlName) (hrm : N cfg.rmName) (out out' : List Char)
    (hnu : NoUnwrapAttr (parseSource (renderAll (d0 :: dr) (e0 :: er) ps) (d0 :: dr) (e0 :: er)))
    (h : clean (renderAll (d0 :: dr) (e0 :: er) ps) (d0 :: dr) (e0 :: er) cfg = .ok out)
    (h' : clean (renderAll (d0' :: dr') (e0' :: er') ps') (d0' :: dr') (e0' :: er')
      { cfg with tlName := ρ cfg.tlName, rmName := ρ cfg.rmName } = .ok out') :
    ∃ qs qs' F F', out = renderAll (d0 :: dr) (e0 :: er) qs ∧ out' = renderAll (d0' :: dr') (e0' :: er') qs' ∧
      PiecesRen ρ N qs qs' ∧
      PExact (d0 :: dr) (e0 :: er) F qs (survivors (renderAll (d0 :: dr) (e0 :: er) ps) (d0 :: dr) (e0 :: er) cfg) 0 ∧
      WsOnly F (toksBytes (survivors (renderAll (d0 :: dr) (e0 :: er) ps) (d0 :: dr) (e0 :: er) cfg)) ∧
      PExact (d0' :: dr') (e0' :: er') F' qs' (survivors (renderAll (d0' :: dr') (e0' :: er') ps') (d0' :: dr') (e0' :: er')
        { cfg with tlName := ρ cfg.tlName, rmName := ρ cfg.rmName }) 0 ∧
      WsOnly F' (toksBytes (survivors (renderAll (d0' :: dr') (e0' :: er') ps') (d0' :: dr') (e0' :: er')
        { cfg with tlName := ρ cfg.tlName, rmName := ρ cfg.rmName })) :=
  rename_exact_tn d0 dr e0 er d0' dr' e0' er' ρ N hρ hd0 hel hd0' hel' ps ps' hren hstrip hstrip'
    (C08.tokenize_wide_tnorm d0 dr e0 er ps hw) (C08.tokenize_wide_tnorm d0' dr' e0' er' ps' hw')
    cfg htl hrm out out' hnu h h'

/-! Non-vacuity: an HTML fragment whose text holds `<`, `>`, `/` and `*`, under `<!-- <` / `> -->` and `/* <` / `> */`. -/

def stripB (ds de : List Char) : Piece → Bool
  | .text _ => true
  | .tag b0 rest => !(ds.isPrefixOf ((b0 :: rest) ++ de)) && !(de.reverse.isPrefixOf (b0 :: rest).reverse)

theorem stripB_sound (ds de : List Char) (p : Piece) (h : stripB ds de p = true) : p.strip ds de := by
  cases p with
  | text s => trivial
  | tag b0 rest =>
    simp only [stripB, Bool.and_eq_true, Bool.not_eq_true'] at h
    exact ⟨h.1, h.2⟩

def widePs : List Piece :=
  [.text "<div>\n  ".toList, C08.mkTag "rm name='a'", .text "\n  <p>x / y * z</p>\n  ".toList, C08.mkTag "/rm",
   .text "\n  <b>kept</b>\n</div>\n".toList]
def wideCfg : Cfg := ⟨"tl".toList, "rm".toList, 1577836800, 0, "+00:00".toList, ["a".toList]⟩

set_option maxRecDepth 16384 in
example : wideOK "<!-- <".toList "> -->".toList widePs [] = true ∧ wideOK "/* <".toList "> */".toList widePs [] = true ∧
    (widePs.all fun p => stripB "<!-- <".toList "> -->".toList p && stripB "/* <".toList "> */".toList p) = true ∧
    (widePs.all fun p => match p with | .text s => !s.contains '<' && !s.contains '/' | _ => true) = false := by
  unfold widePs
  repeat rw [C08.mkTag_ofList]
  decide_lit

set_option maxRecDepth 16384 in
example : outIs (clean (renderAll "<!-- <".toList "> -->".toList widePs) "<!-- <".toList "> -->".toList wideCfg)
      "<div>\n  <b>kept</b>\n</div>\n" = true ∧
    outIs (clean (renderAll "/* <".toList "> */".toList widePs) "/* <".toList "> */".toList wideCfg)
      "<div>\n  <b>kept</b>\n</div>\n" = true := by
  simp only [outIs_iff]
  unfold widePs
  repeat rw [C08.mkTag_ofList]
  decide_lit wideCfg

/-- an instance in which a tag SURVIVES (a pending `tl`), so that the two outputs differ - in the spelling of that tag only -/
def widePs2 : List Piece :=
  [.text "<div>\n  ".toList, C08.mkTag "rm name='a'", .text "\n  <p>x / y * z</p>\n  ".toList, C08.mkTag "/rm",
   .text "\n  ".toList, C08.mkTag "tl to='2999-01-01 00:00:00'", .text "\n  <b>kept / later</b>\n  ".toList, C08.mkTag "/tl",
   .text "\n</div>\n".toList]

set_option maxRecDepth 16384 in
example : wideOK "<!-- <".toList "> -->".toList widePs2 [] = true ∧ wideOK "/* <".toList "> */".toList widePs2 [] = true ∧
    (widePs2.all fun p => stripB "<!-- <".toList "> -->".toList p && stripB "/* <".toList "> */".toList p) = true := by
  unfold widePs2
  repeat rw [C08.mkTag_ofList]
  decide_lit

set_option maxRecDepth 16384 in
example : outIs (clean (renderAll "<!-- <".toList "> -->".toList widePs2) "<!-- <".toList "> -->".toList wideCfg)
      "<div>\n  <!-- <tl to='2999-01-01 00:00:00'> -->\n  <b>kept / later</b>\n  <!-- </tl> -->\n</div>\n" = true ∧
    outIs (clean (renderAll "/* <".toList "> */".toList widePs2) "/* <".toList "> */".toList wideCfg)
      "<div>\n  /* <tl to='2999-01-01 00:00:00'> */\n  <b>kept / later</b>\n  /* </tl> */\n</div>\n" = true := by
  simp only [outIs_iff]
  unfold widePs2
  repeat rw [C08.mkTag_ofList]
  decide_lit wideCfg

end Chiritori.Props.C18
