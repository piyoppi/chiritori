import Chiritori.Lemmas.DecideLit
import Chiritori.Props.C13Doc
/-
  Inline removals: a seam that stands inside a line, with text on both sides of it on that line, loses no whitespace -
  and when every seam of a document is of that kind (and no block is unwrapped) the output of `clean` is the text after
  removal, byte for byte.
-/
namespace Chiritori.Props.C13
open Chiritori Chiritori.Spec

/-- `p` is a character boundary; in front of it only blanks up to a byte `q` that is neither blank nor a line break,
    and from it on only blanks up to such a byte `r` -/
def InlineSeam (b : Bytes) (p : Nat) : Prop :=
  isBoundary b p = true ∧
  (∃ q, q < p ∧ (∃ x, b[q]? = some x ∧ isStopByte x) ∧ ∀ i, q < i → i < p → ∃ x, b[i]? = some x ∧ isSkipByte x) ∧
  (∃ r, p ≤ r ∧ (∃ x, b[r]? = some x ∧ isStopByte x) ∧ ∀ i, p ≤ i → i < r → ∃ x, b[i]? = some x ∧ isSkipByte x)

/-- none of the four seam formatters finds anything to delete at an inline seam -/
theorem inline_hull (b : Bytes) (p : Nat) (h : InlineSeam b p) :
    formatBlock b p seamFormatters (p, p) = .ok (p, p) := by
  obtain ⟨hb, ⟨q, hq, hqs, hqb⟩, ⟨r, hr, hrs, hrb⟩⟩ := h
  obtain ⟨xr, hxr, sr⟩ := hrs
  have hrlt : r < b.length := lt_of_getElem?_some _ _ _ hxr
  have hple : p ≤ b.length := by omega
  have hnl : byteIs b p '\n' = false := by
    by_cases hpr : p = r
    · subst hpr
      obtain ⟨c, rfl, c1, c2, c3⟩ := sr
      simp [byteIs, hxr, c3]
    · obtain ⟨x, hx, sx⟩ := hrb p (Nat.le_refl _) (by omega)
      rcases sx with rfl | rfl | rfl <;> simp [byteIs, hx]
  have hprev : findPrevLB b p true = none := findPrevLB_pause_none b p q hq hple hqb (Or.inr hqs)
  have hnext : findNextLB b p true = none := findNextLB_pause_none b p r hr hrb (Or.inr ⟨xr, hxr, sr⟩)
  simp only [seamFormatters, formatBlock, fmtIndent, fmtEmpty, fmtPrev, fmtNext, hb, hnl, hprev, hnext,
    Bool.not_true, Bool.not_false, Bool.false_eq_true, or_true, ite_true, ite_false, Option.bind_none,
    Nat.min_self, Nat.max_self]

/-- a document all of whose seams are inline, nothing unwrapped: the output is the text after removal, byte for byte -
    no whitespace is touched -/
theorem clean_inline_exact (src ds de : List Char) (cfg : Cfg) (out : List Char) (hde : de ≠ [])
    (hnu : NoReadyUnwrap cfg (parseSource src ds de))
    (hin : ∀ p ∈ positions (buildRemoveMarker cfg (bytesOf src) (parseSource src ds de)) 0,
      InlineSeam (minusRanges (bytesOf src) (extentsOfSource src ds de cfg)) p)
    (h : clean src ds de cfg = .ok out) :
    bytesOf out = minusRanges (bytesOf src) (extentsOfSource src ds de cfg) := by
  obtain ⟨s1, hs1, hf⟩ := clean_ok src ds de cfg out hde h
  rw [← hs1] at hin ⊢
  obtain ⟨rs, bs, F, hfc, ho, _, hsub, _⟩ := format_deleted s1 _ _ hf
  cases formatCollect_noblocks _ _ _ rs bs (pairs_none src ds de cfg hnu) hfc
  obtain ⟨hhull, rfl, _⟩ := formatCollect_eq _ _ _ _ _ hfc
  rw [ho]
  refine minusFrom_keep _ _ _ fun d _ _ => ?_
  cases hd : inAny F d with
  | false => rfl
  | true =>
    -- `d` would lie in the hull of a seam, and that hull is empty
    obtain ⟨r, hr, h1, h2⟩ := (inAny_iff _ _).mp ((hsub d hd).resolve_right (by simp [inAny]))
    obtain ⟨p, hp, rfl⟩ := List.mem_map.mp hr
    rw [seamHull_eq (inline_hull _ p.1 (hin p.1 (List.of_mem_zip hp).1))] at h1 h2
    omega

/-! Non-vacuity: `a <rm name='a'>x</rm> b`. -/
def inSrc : List Char := "a <rm name='a'>x</rm> b\n".toList
def inCfg : Cfg := ⟨"tl".toList, "rm".toList, 1577836800, 0, "+00:00".toList, ["a".toList]⟩
theorem inM_eq : buildRemoveMarker inCfg (bytesOf inSrc) (parseSource inSrc "<".toList ">".toList) = [⟨2, 21, none⟩] := by
  decide_lit inSrc inCfg
example : (clean inSrc "<".toList ">".toList inCfg).toOption = some "a  b\n".toList := by
  simp only [clean]
  rw [inM_eq]
  decide_lit inSrc
example : positions (buildRemoveMarker inCfg (bytesOf inSrc) (parseSource inSrc "<".toList ">".toList)) 0 = [2] := by
  rw [inM_eq]; rfl
example : InlineSeam (bytesOf "a  b\n".toList) 2 := by
  have hb : bytesOf "a  b\n".toList = [.lead 'a', .lead ' ', .lead ' ', .lead 'b', NL] := by decide_lit
  rw [hb]
  refine ⟨rfl, ⟨0, by omega, ⟨.lead 'a', rfl, 'a', rfl, by decide, by decide, by decide⟩, ?_⟩,
    ⟨3, by omega, ⟨.lead 'b', rfl, 'b', rfl, by decide, by decide, by decide⟩, ?_⟩⟩
  · intro i h1 h2
    have : i = 1 := by omega
    subst this
    exact ⟨.lead ' ', rfl, Or.inr (Or.inl rfl)⟩
  · intro i h1 h2
    have : i = 2 := by omega
    subst this
    exact ⟨.lead ' ', rfl, Or.inr (Or.inl rfl)⟩

end Chiritori.Props.C13
