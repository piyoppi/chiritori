import Chiritori.Lemmas.DecideLit
import Chiritori.Props.C13Entry
import Chiritori.Lemmas.Induction
/-
  The block-style hypothesis of C12 / C13, derived from the tags.

  `blockStyle_of_blockDoc` (Props/C13Entry.lean) needs the *removed ranges* to be block-style (`BlockMarkers`).  Here
  that is derived from a condition on the *tags of the ready elements* (`blockMarkers_of_tags`, `blockStyle_of_tags`):
  the opening tag begins behind blanks only on a line that is not the first (or at offset 0 of the text), and does not
  itself begin with a line break; the closing tag ends in front of a line break or at the end of the text; for an unwrap-block that can be
  unwrapped, the wrapper line in front of the closing tag is not empty.  The removed ranges are unions of extents of
  ready elements, so each begins where an extent begins and ends where an extent ends (`mergeMarkers_ends`,
  `collect_ends`).
-/
namespace Chiritori.Props.C13
open Chiritori Chiritori.Spec

mutual
def rStarts : List RTree → List Nat
  | [] => []
  | t :: ts => rtStarts t ++ rStarts ts
def rtStarts : RTree → List Nat
  | .node r p ch => (r.1 :: (match p with | some t => [t.1] | none => [])) ++ rStarts ch
end

mutual
def rStops : List RTree → List Nat
  | [] => []
  | t :: ts => rtStops t ++ rStops ts
def rtStops : RTree → List Nat
  | .node r p ch => (r.2 :: (match p with | some t => [t.2] | none => [])) ++ rStops ch
end

/-- a range widened by child markers: its ends stay among the given ends -/
theorem mergeChild_mem (A B : List Nat) : ∀ (cs : List Marker) (m : Rng), m.1 ∈ A → m.2 ∈ B →
    (∀ c ∈ cs, c.start ∈ A ∧ c.stop ∈ B) → (mergeChildMarkers cs m).2.1 ∈ A ∧ (mergeChildMarkers cs m).2.2 ∈ B
  | [], _, hA, hB, _ => ⟨hA, hB⟩
  | c :: cs, m, hA, hB, hc => by
    simp only [mergeChildMarkers]
    split
    · refine mergeChild_mem A B cs _ ?_ ?_ fun c' hc' => hc c' (List.mem_cons_of_mem _ hc')
      · rcases Nat.le_total m.1 c.start with h | h
        · simp only [Nat.min_eq_left h]; exact hA
        · simp only [Nat.min_eq_right h]; exact (hc c List.mem_cons_self).1
      · rcases Nat.le_total m.2 c.stop with h | h
        · simp only [Nat.max_eq_right h]; exact (hc c List.mem_cons_self).2
        · simp only [Nat.max_eq_left h]; exact hB
    · exact ⟨hA, hB⟩

theorem mergeTree_mergeMarkers_ends :
    (∀ (t : RTree) (acc : List Marker), ∀ m ∈ mergeTree t acc,
      m ∈ acc ∨ (m.start ∈ rtStarts t ∧ m.stop ∈ rtStops t)) ∧
    (∀ (ts : List RTree) (acc : List Marker), ∀ m ∈ mergeMarkers ts acc,
      m ∈ acc ∨ (m.start ∈ rStarts ts ∧ m.stop ∈ rStops ts)) := by
  refine rtree_rtrees_induction (fun range pair children ih acc m hm => ?_)
    (fun acc m hm => Or.inl (by simpa only [mergeMarkers] using hm)) (fun t ts iht ihts acc m hm => ?_)
  · -- every marker of the children, the range and its partner have their ends among those of the node
    have hcm : ∀ c ∈ mergeMarkers children [], c.start ∈ rtStarts (.node range pair children) ∧
        c.stop ∈ rtStops (.node range pair children) := fun c hc =>
      (ih [] c hc).elim (fun h => nomatch h) fun h => ⟨by simp [rtStarts, h.1], by simp [rtStops, h.2]⟩
    have hr := mergeChild_mem _ _ (mergeMarkers children []) range (by simp [rtStarts]) (by simp [rtStops]) hcm
    simp only [mergeTree] at hm
    cases pair with
    | none =>
      rcases List.mem_append.mp hm with h | h
      · exact Or.inl h
      · cases List.mem_singleton.mp h; exact Or.inr hr
    | some endRange =>
      have he := mergeChild_mem _ _
        (List.drop (mergeChildMarkers (mergeMarkers children []) range).1 (mergeMarkers children [])).reverse endRange
        (by simp [rtStarts]) (by simp [rtStops]) fun c hc => hcm c (List.mem_of_mem_drop (List.mem_reverse.mp hc))
      simp only at hm
      split at hm
      · rcases List.mem_append.mp hm with h | h
        · exact Or.inl h
        · cases List.mem_singleton.mp h; exact Or.inr ⟨hr.1, he.2⟩
      · simp only [List.mem_append, List.mem_singleton, List.mem_map] at hm
        rcases hm with ((h | h) | ⟨c, hc, h⟩) | h
        · exact Or.inl h
        · subst h; exact Or.inr hr
        · subst h; exact Or.inr (hcm c (List.mem_of_mem_drop (List.mem_of_mem_take hc)))
        · subst h; exact Or.inr he
  · simp only [mergeMarkers] at hm
    rcases ihts _ m hm with h | h
    · exact (iht acc m h).imp id fun h' => ⟨by simp [rStarts, h'.1], by simp [rStops, h'.2]⟩
    · exact Or.inr ⟨by simp [rStarts, h.1], by simp [rStops, h.2]⟩

theorem mergeMarkers_ends : ∀ (ts : List RTree) (acc : List Marker), ∀ m ∈ mergeMarkers ts acc,
    m ∈ acc ∨ (m.start ∈ rStarts ts ∧ m.stop ∈ rStops ts) := mergeTree_mergeMarkers_ends.2

theorem mergeTree_ends : ∀ (t : RTree) (acc : List Marker), ∀ m ∈ mergeTree t acc,
    m ∈ acc ∨ (m.start ∈ rtStarts t ∧ m.stop ∈ rtStops t) := mergeTree_mergeMarkers_ends.1

mutual
def rRanges : List RTree → List Rng
  | [] => []
  | t :: ts => rtRanges t ++ rRanges ts
def rtRanges : RTree → List Rng
  | .node r p ch => (r :: (match p with | some t => [t] | none => [])) ++ rRanges ch
end

theorem rStarts_rStops_eq : ∀ ts : List RTree,
    rStarts ts = (rRanges ts).map (·.1) ∧ rStops ts = (rRanges ts).map (·.2) := by
  refine rtrees_induction ⟨rfl, rfl⟩ fun r p ch rest ihc ih => ?_
  cases p <;> simp [rStarts, rtStarts, rStops, rtStops, rRanges, rtRanges, ihc.1, ihc.2, ih.1, ih.2]

theorem rRanges_append (a c : List RTree) : rRanges (a ++ c) = rRanges a ++ rRanges c := by
  induction a with
  | nil => rfl
  | cons t ts ih => simp [rRanges, ih]

theorem collect_ranges (cfg : Cfg) (b : Bytes) :
    (∀ (p : Part) (lo hi : Nat), BSpan (flattenPart p) lo hi → hi ≤ b.length →
      ∀ x ∈ rRanges (collectPart cfg b false p).1, x ∈ extentsOfPart cfg b p) ∧
    (∀ (parts : List Part) (lo hi : Nat), BSpan (flattenParts parts) lo hi → hi ≤ b.length →
      ∀ x ∈ rRanges (collect cfg b false parts).1, x ∈ extentsOfParts cfg b parts) := by
  refine part_parts_induction (fun t lo hi _ _ x hx => nomatch hx) (fun el st en ch ih lo hi hs hlen x hx => ?_)
    (fun lo hi _ _ x hx => nomatch hx) (fun p ps ihp ihps lo hi hs hlen x hx => ?_)
  · simp only [flattenPart, List.cons_append, BSpan, BSpan_append] at hs
    obtain ⟨hst, hst2, mid, hch, hen1, hen2, hen3⟩ := hs
    have hmid := BSpan_le _ st.bstop mid hch
    have ihc := ih st.bstop mid hch (by omega)
    simp only [collectPart, elementRange_eq, Bool.false_and, Bool.false_eq_true, if_false] at hx
    simp only [extentsOfPart, List.mem_append]
    cases hne : (createRange b el st en).1.isEmpty
    case true =>
      simp only [hne, if_true] at hx
      exact Or.inr (ihc x hx)
    case false =>
      by_cases hc : conditionHolds cfg el = true
      · -- a ready element: its node carries its extent
        simp only [hne, hc, if_true, Bool.false_eq_true, if_false, rRanges, rtRanges, List.append_nil,
          List.mem_append] at hx
        rw [if_pos hc, extentOf_eq_createRange b el st en (by omega) (by omega)]
        refine hx.imp (fun hx => ?_) (ihc x)
        rcases hcr : createRange b el st en with ⟨r, _ | t⟩ <;> simp only [hcr] at hx hne ⊢
        · rw [hne, if_neg Bool.false_ne_true]; exact hx
        · exact hx
      · simp only [hne, hc, Bool.false_eq_true, if_false] at hx
        exact Or.inr (ihc x hx)
  · simp only [flattenParts, BSpan_append] at hs
    obtain ⟨mid, hs1, hs2⟩ := hs
    have hmid := BSpan_le _ mid hi hs2
    simp only [collect, rRanges_append, List.mem_append] at hx
    simp only [extentsOfParts, List.mem_append]
    exact hx.imp (ihp lo mid hs1 (by omega) x) (ihps mid hi hs2 hlen x)

theorem collect_ends (cfg : Cfg) (b : Bytes) : ∀ (parts : List Part) (lo hi : Nat),
    BSpan (flattenParts parts) lo hi → hi ≤ b.length →
    (∀ x ∈ rStarts (collect cfg b false parts).1, ∃ r ∈ extentsOfParts cfg b parts, r.1 = x) ∧
    (∀ x ∈ rStops (collect cfg b false parts).1, ∃ r ∈ extentsOfParts cfg b parts, r.2 = x) := by
  intro parts lo hi hs hlen
  have h := (collect_ranges cfg b).2 parts lo hi hs hlen
  rw [(rStarts_rStops_eq _).1, (rStarts_rStops_eq _).2]
  exact ⟨fun x hx => have ⟨r, hr, e⟩ := List.mem_map.mp hx; ⟨r, h r hr, e⟩,
    fun x hx => have ⟨r, hr, e⟩ := List.mem_map.mp hx; ⟨r, h r hr, e⟩⟩

theorem blockMarkers_of_extents (src ds de : List Char) (cfg : Cfg) (hde : de ≠ [])
    (h : ∀ r ∈ extentsOfSource src ds de cfg, StartOK (bytesOf src) r.1 ∧ StopOK (bytesOf src) r.2) :
    BlockMarkers (bytesOf src) (buildRemoveMarker cfg (bytesOf src) (parseSource src ds de)) := by
  obtain ⟨e1, e2⟩ := collect_ends cfg (bytesOf src) (parseSource src ds de) 0 (blen src)
    (parseSource_span src ds de hde) (by simp)
  unfold extentsOfSource at h
  rw [readyExtents_eq] at h
  intro m hm
  rcases mergeMarkers_ends _ [] m hm with h0 | ⟨h1, h2⟩
  · cases h0
  · obtain ⟨r1, hr1, q1⟩ := e1 _ h1
    obtain ⟨r2, hr2, q2⟩ := e2 _ h2
    exact ⟨q2 ▸ (h r2 hr2).2, q1 ▸ (h r1 hr1).1⟩

theorem unwrapParts_nl (b : Bytes) (st en : Token) (h t : Rng) (hu : unwrapParts b st en = some (h, t)) :
    b[h.2]? = some NL ∧ 0 < t.1 ∧ b[t.1 - 1]? = some NL :=
  _root_.Chiritori.unwrapParts_nl b st en h t hu

/-- The tags of the ready elements stand block-style: the removed ranges do. -/
theorem blockMarkers_of_tags (src ds de : List Char) (cfg : Cfg) (hde : de ≠ [])
    (h : ∀ e ∈ elementsOf (parseSource src ds de), conditionHolds cfg e.1 = true →
      StartOK (bytesOf src) e.2.1.bstart ∧ StopOK (bytesOf src) e.2.2.bstop ∧
      (hasAttr e.1 "unwrap-block" = true →
        ∀ hd tl, unwrapParts (bytesOf src) e.2.1 e.2.2 = some (hd, tl) → (bytesOf src)[tl.1]? ≠ some NL)) :
    BlockMarkers (bytesOf src) (buildRemoveMarker cfg (bytesOf src) (parseSource src ds de)) := by
  apply blockMarkers_of_extents src ds de cfg hde
  intro r hr
  unfold extentsOfSource readyExtents at hr
  obtain ⟨e, he, hre⟩ := List.mem_flatMap.mp hr
  obtain ⟨el, st, en⟩ := e
  simp only at hre
  by_cases hc : conditionHolds cfg el = true
  · rw [if_pos hc] at hre
    obtain ⟨g1, g2, g3⟩ := h (el, st, en) he hc
    simp only at g1 g2 g3
    unfold extentOf at hre
    split at hre
    · rename_i hua
      cases hu : unwrapParts (bytesOf src) st en with
      | none => rw [hu] at hre; simp at hre
      | some ht =>
        obtain ⟨hd, tl⟩ := ht
        rw [hu] at hre
        simp only [List.mem_cons, List.not_mem_nil, or_false] at hre
        obtain ⟨n1, n2, n3⟩ := unwrapParts_nl _ st en hd tl hu
        obtain ⟨q1, _, _, _, q5⟩ := unwrapParts_geo _ st en hd tl hu
        rcases hre with rfl | rfl
        · exact ⟨by rw [q1]; exact g1, Or.inl n1⟩
        · refine ⟨⟨g3 hua hd r hu, r.1, Nat.le_refl _, Or.inl ⟨n2, n3⟩, ?_⟩, by rw [q5]; exact g2⟩
          intro i h1 h2; omega
    · split at hre
      · simp only [List.mem_cons, List.not_mem_nil, or_false] at hre
        subst hre
        exact ⟨g1, g2⟩
      · cases hre
  · rw [if_neg hc] at hre; cases hre

/-- ... and so every seam of the text after removal is block-style: the hypothesis of `c12_line_exact`, `c13_lines`
    and `c13_blank_count`, from the tags. -/
theorem blockStyle_of_tags (src ds de : List Char) (cfg : Cfg) (hde : de ≠ [])
    (h : ∀ e ∈ elementsOf (parseSource src ds de), conditionHolds cfg e.1 = true →
      StartOK (bytesOf src) e.2.1.bstart ∧ StopOK (bytesOf src) e.2.2.bstop ∧
      (hasAttr e.1 "unwrap-block" = true →
        ∀ hd tl, unwrapParts (bytesOf src) e.2.1 e.2.2 = some (hd, tl) → (bytesOf src)[tl.1]? ≠ some NL)) :
    BlockStyleK (minusRanges (bytesOf src) (extentsOfSource src ds de cfg))
      (positions (buildRemoveMarker cfg (bytesOf src) (parseSource src ds de)) 0) :=
  blockStyle_of_blockDoc src ds de cfg hde (blockMarkers_of_tags src ds de cfg hde h)

def tagsB (cfg : Cfg) (b : Bytes) (e : Element × Token × Token) : Bool :=
  !conditionHolds cfg e.1 ||
    (startOKB b e.2.1.bstart && (b[e.2.2.bstop]? == some NL || e.2.2.bstop == b.length) &&
      (!hasAttr e.1 "unwrap-block" ||
        (match unwrapParts b e.2.1 e.2.2 with
         | some (_, tl) => b[tl.1]? != some NL
         | none => true)))

theorem tagsB_sound (cfg : Cfg) (b : Bytes) (es : List (Element × Token × Token)) (h : es.all (tagsB cfg b) = true) :
    ∀ e ∈ es, conditionHolds cfg e.1 = true →
      StartOK b e.2.1.bstart ∧ StopOK b e.2.2.bstop ∧
      (hasAttr e.1 "unwrap-block" = true → ∀ hd tl, unwrapParts b e.2.1 e.2.2 = some (hd, tl) → b[tl.1]? ≠ some NL) := by
  intro e he hc
  have := List.all_eq_true.mp h e he
  simp only [tagsB, hc, Bool.not_true, Bool.false_or, Bool.and_eq_true, Bool.or_eq_true, beq_iff_eq] at this
  obtain ⟨⟨h1, h2⟩, h3⟩ := this
  refine ⟨startOKB_sound b _ h1, h2, ?_⟩
  intro hua hd tl hu
  rw [hu, hua] at h3
  simpa using h3

set_option maxRecDepth 8192 in
example : BlockStyleK (minusRanges (bytesOf exSrc) (extentsOfSource exSrc "<".toList ">".toList exCfg))
    (positions (buildRemoveMarker exCfg (bytesOf exSrc) (parseSource exSrc "<".toList ">".toList)) 0) :=
  blockStyle_of_tags exSrc "<".toList ">".toList exCfg (by decide)
    (tagsB_sound exCfg (bytesOf exSrc) _ (by decide_lit exSrc exCfg))

/-- a default-strategy element with an empty line in front of its closing tag is within the hypothesis (the clause about the
    wrapper line concerns unwrap-blocks only) -/
example : (elementsOf (parseSource "a\n<rm name='a'>\nx\ny\n\n</rm>\nb\n".toList "<".toList ">".toList)).all
    (tagsB exCfg (bytesOf "a\n<rm name='a'>\nx\ny\n\n</rm>\nb\n".toList)) = true := by decide_lit exCfg

/-- with an unwrap-block that is unwrapped -/
def uwSrc2 : List Char :=
  "a\n  <rm name='a' unwrap-block>\n  if {\n      x\n        y\n  }\n  </rm>\nb".toList

set_option maxRecDepth 8192 in
example : BlockStyleK (minusRanges (bytesOf uwSrc2) (extentsOfSource uwSrc2 "<".toList ">".toList exCfg))
    (positions (buildRemoveMarker exCfg (bytesOf uwSrc2) (parseSource uwSrc2 "<".toList ">".toList)) 0) ∧
    (extentsOfSource uwSrc2 "<".toList ">".toList exCfg).length = 2 :=
  have h : (elementsOf (parseSource uwSrc2 "<".toList ">".toList)).all (tagsB exCfg (bytesOf uwSrc2)) = true ∧
      (extentsOfSource uwSrc2 "<".toList ">".toList exCfg).length = 2 := by decide_lit uwSrc2 exCfg
  ⟨blockStyle_of_tags uwSrc2 "<".toList ">".toList exCfg (by decide) (tagsB_sound exCfg (bytesOf uwSrc2) _ h.1), h.2⟩

end Chiritori.Props.C13
