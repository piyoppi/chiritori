import Chiritori.Props.C02
import Chiritori.Lemmas.Exact
/-
  C15 — list reports exactly what clean deletes, and changes nothing.

  The items of `list` are built from the very marker list `remove` deletes, one item per marker, all flagged Ready.
  Those regions are sorted, disjoint and cover exactly the ready extents (C02/C03's coverage theorem), the source minus
  the listed regions is the text before whitespace tidying, and the reported line numbers are 1 + the number of line
  breaks before the first / last byte of the region.  In the property's space (no tag on a wrapper line, `WrapFree`)
  the regions are exactly `refRegions (conditionHolds cfg)`: one per default-strategy ready element and nothing from
  inside it, opening part / inner regions / closing part per unwrapped ready element, in document order.
  That `list` changes nothing: it is a function of source and configuration in the model by construction; in Rust it
  takes an `Rc<String>` and returns a `String`.
  That the highlighted text of an item is the text of its region is `C16.highlight_is_region` and
  `C16.highlight_is_region_nl`.
-/
namespace Chiritori.Props.C15
open Chiritori Chiritori.Spec

theorem list_regions (src ds de : List Char) (cfg : Cfg) :
    listMarkers src ds de cfg = (buildRemoveMarker cfg (bytesOf src) (parseSource src ds de)).map fun m => (m, true) := rfl

theorem regions_spec (src ds de : List Char) (cfg : Cfg) (hde : de ≠ []) :
    MSorted (buildRemoveMarker cfg (bytesOf src) (parseSource src ds de)) 0 (blen src) ∧
    ∀ i, mcov (buildRemoveMarker cfg (bytesOf src) (parseSource src ds de)) i ↔
      inAny (extentsOfSource src ds de cfg) i = true :=
  buildRemoveMarker_spec src ds de cfg hde

theorem removed_text (src ds de : List Char) (cfg : Cfg) (hde : de ≠ []) (removed : Bytes)
    (h : removeMarkers (bytesOf src) ((listMarkers src ds de cfg).map (·.1)) = .ok removed) :
    removed = minusRanges (bytesOf src) (((listMarkers src ds de cfg).map (·.1)).map fun m => (m.start, m.stop)) := by
  have e : (listMarkers src ds de cfg).map (·.1) = buildRemoveMarker cfg (bytesOf src) (parseSource src ds de) := by
    rw [list_regions, List.map_map]
    exact List.map_id _
  rw [e] at h ⊢
  exact removeMarkers_eq _ _ 0 (blen src) (regions_spec src ds de cfg hde).1 removed h

theorem regions_exact (src ds de : List Char) (cfg : Cfg) (hde : de ≠ [])
    (hw : WrapFree (bytesOf src) (parseSource src ds de)) :
    (listMarkers src ds de cfg).map (fun x => (x.1.start, x.1.stop)) =
      refRegions (conditionHolds cfg) (bytesOf src) (parseSource src ds de) := by
  rw [← (source_regions_exact src ds de cfg hde hw).1, list_regions, List.map_map]
  rfl

/-- the predicate the check evaluates on the implementation's regions (`Spec.c15Holds`) is a theorem of the model -/
theorem c15Holds_model (src ds de : List Char) (cfg : Cfg) (hde : de ≠ [])
    (hw : wrapFreeB (bytesOf src) (parseSource src ds de) = true) :
    c15Holds src ds de cfg ((listMarkers src ds de cfg).map fun x => (x.1.start, x.1.stop)) = true := by
  unfold c15Holds
  rw [regions_exact src ds de cfg hde (wrapFreeB_sound _ _ hw)]
  simp

/-- the count clause: as many items as the reference lists regions -/
theorem item_count (src ds de : List Char) (cfg : Cfg) (hde : de ≠ [])
    (hw : WrapFree (bytesOf src) (parseSource src ds de)) :
    (listMarkers src ds de cfg).length =
      (refRegions (conditionHolds cfg) (bytesOf src) (parseSource src ds de)).length := by
  rw [← regions_exact src ds de cfg hde hw, List.length_map]

/-- `find_line` on a sorted table: one more than the number of breaks before the needle (a line break belongs to
    the line it ends) -/
theorem findLine_spec (lm : List Nat) (hs : lm.Pairwise (· < ·)) (x : Nat) :
    findLine lm x = 1 + (lm.filter fun p => decide (p < x)).length := by
  induction lm with
  | nil => rfl
  | cons a rest ih =>
    obtain ⟨h1, h2⟩ := List.pairwise_cons.mp hs
    unfold findLine at ih ⊢
    rw [List.findIdx?_cons, List.filter_cons]
    by_cases ha : a < x
    · -- `a` is one more break in front of `x`
      rw [if_neg (by rw [decide_eq_true_eq]; exact Nat.not_le.mpr ha), if_pos (decide_eq_true ha)]
      show _ = 1 + ((rest.filter _).length + 1)
      rw [← Nat.add_assoc, ← ih h2]
      cases rest.findIdx? _ <;> rfl
    · -- no break from `a` on lies in front of `x`
      have hall : rest.filter (fun p => decide (p < x)) = [] := List.filter_eq_nil_iff.mpr fun p hp =>
        by rw [decide_eq_true_eq]; exact fun h => ha (Nat.lt_trans (h1 p hp) h)
      rw [if_pos (decide_eq_true (Nat.le_of_not_lt ha)), if_neg (by rw [decide_eq_true_eq]; exact ha), hall]
      rfl

theorem line_numbers (b : Bytes) (start stop : Nat) (h : 0 < stop) :
    getLineRange (lineBreaks b) start stop =
      .ok (1 + ((lineBreaks b).filter fun p => decide (p < start)).length,
           1 + ((lineBreaks b).filter fun p => decide (p < stop - 1)).length) := by
  unfold getLineRange subU
  rw [if_pos (by omega)]
  simp only [bind, Except.bind, pure, Except.pure]
  rw [findLine_spec _ (lineBreaks_sorted b), findLine_spec _ (lineBreaks_sorted b)]

end Chiritori.Props.C15
