import Chiritori.Lemmas.DecideLit
import Chiritori.Lemmas.FormatWs
/-
  C13 — Block-style removal keeps lines intact and leaves no blank-line residue.

  Proved (for every text): the union of the four seam formatters around a *block-style seam* - a removed position
  `pos` that is followed by a line break and preceded on its line by blanks only, the line not being the first of
  the file - consists of whole whitespace-only lines.  The hull `[S, E)` is whitespace, `S` is a line start with
  `S ≤ pos`, and `E` is `pos`, `pos+1` (just behind the residual line break) or the position of a line break; so no
  byte of any non-blank line, nor the line break that ends it, lies in the hull: surviving non-blank lines stay byte
  for byte, indentation included, each on a line of its own.  In closed form (`seam_exact`, which needs the
  completeness lemmas of the finders) `S` is the start of the blank line before the residue line if there is one, else
  the start of the residue line, and `E` the line break ending the blank line after it if there is one, else `pos`
  (blank line before) or `pos + 1` (none): the hull is blanks plus exactly one line break - two when there is a blank
  line on both sides.  With b blank lines before and a after, the b + 1 + a whitespace-only lines between the two
  non-blank neighbours become a + b - [a>0 ∧ b>0]: the blank-line arithmetic of the property, at one seam.
  At document level: clause (a) in Props/C13Doc.lean, clause (b) in Props/C13Count.lean.  Not covered: a seam on the
  first line of the file (known finding D7).
-/
namespace Chiritori.Props.C13
open Chiritori

def LineStart (b : Bytes) (x : Nat) : Prop := x = 0 ∨ (0 < x ∧ b[x - 1]? = some (.lead '\n'))

/-- what each seam formatter contributes -/
structure SeamPart (s : List Char) (pos : Nat) (r : Nat × Nat) : Prop where
  good : GoodRange s pos r
  startOK : r.1 = pos ∨ LineStart (bytesOf s) r.1
  endOK : r.2 = pos ∨ (r.2 = pos + 1 ∧ (bytesOf s)[pos]? = some (.lead '\n')) ∨ (bytesOf s)[r.2]? = some (.lead '\n')

theorem fmtIndent_part (s : List Char) (pos : Nat) (r : Nat × Nat) (hb : isBoundary (bytesOf s) pos = true)
    (hl : pos ≤ blen s) (h : fmtIndent (bytesOf s) pos = .ok r) : SeamPart s pos r := by
  obtain ⟨e, _, hs⟩ := fmtIndent_inv h
  exact ⟨fmtIndent_good s pos r hb hl h, hs.imp id fun ⟨h0, hnl, _⟩ => Or.inr ⟨h0, hnl⟩, Or.inl e⟩

theorem fmtEmpty_part (s : List Char) (pos : Nat) (r : Nat × Nat)
    (h : fmtEmpty (bytesOf s) pos = .ok r) : SeamPart s pos r := by
  obtain ⟨_, hs, _, he⟩ := fmtEmpty_inv h
  exact ⟨(fmtEmpty_good s pos r h).2.2, Or.inl hs, he.imp id Or.inl⟩

theorem fmtPrev_part (s : List Char) (pos : Nat) (r : Nat × Nat) (hb : isBoundary (bytesOf s) pos = true)
    (hl : pos ≤ blen s) (h : fmtPrev (bytesOf s) pos = .ok r) : SeamPart s pos r := by
  obtain ⟨e, _, hs⟩ := fmtPrev_inv h
  exact ⟨fmtPrev_good s pos r hb hl h, hs.imp id fun ⟨_, h0, _, _, hnl, _⟩ => Or.inr ⟨h0, hnl⟩, Or.inl e⟩

theorem fmtNext_part (s : List Char) (pos : Nat) (r : Nat × Nat) (hb : isBoundary (bytesOf s) pos = true)
    (hl : pos ≤ blen s) (h : fmtNext (bytesOf s) pos = .ok r) : SeamPart s pos r := by
  obtain ⟨hs, _, he⟩ := fmtNext_inv h
  exact ⟨fmtNext_good s pos r hb hl h, Or.inl hs, he.imp id fun ⟨_, _, _, _, hnl, _⟩ => Or.inr hnl⟩

theorem hull_shape (s : List Char) (pos : Nat) (r : Nat × Nat)
    (h : formatBlock (bytesOf s) pos seamFormatters (pos, pos) = .ok r) : SeamPart s pos r := by
  obtain ⟨hb, g⟩ := formatBlock_good s pos r h
  have hl : pos ≤ blen s := Nat.le_trans g.le2 g.len
  obtain ⟨r1, r2, r3, r4, h1, h2, h3, h4, rfl⟩ := seamHull_ok.mp h
  exact ⟨g, prop_min (P := fun x => x = pos ∨ LineStart (bytesOf s) x) (fmtPrev_part s pos r3 hb hl h3).startOK
      (fmtIndent_part s pos r1 hb hl h1).startOK,
    prop_max (P := fun x => x = pos ∨ (x = pos + 1 ∧ (bytesOf s)[pos]? = some (.lead '\n')) ∨
      (bytesOf s)[x]? = some (.lead '\n')) (fmtNext_part s pos r4 hb hl h4).endOK (fmtEmpty_part s pos r2 h2).endOK⟩

/-- C13 (a), one seam: a non-blank line - the bytes `[ls, le)` between two line breaks with a non-whitespace
    byte at `x` - and the line break at `le` that ends it are disjoint from the hull of a block-style seam -/
theorem non_blank_line_intact (s : List Char) (pos : Nat) (r : Nat × Nat) (hp : SeamPart s pos r)
    (hseam : (bytesOf s)[pos]? = some (.lead '\n') ∨ pos = blen s)
    (ls le x : Nat) (hls : LineStart (bytesOf s) ls) (hx1 : ls ≤ x) (hx2 : x < le)
    (hnonl : ∀ i, ls ≤ i → i < le → (bytesOf s)[i]? ≠ some (.lead '\n'))
    (hxnw : ∀ y, (bytesOf s)[x]? = some y → ¬ isWsByte y) (hxin : x < blen s)
    (hstartline : r.1 = pos → pos ≤ ls ∨ le < pos) :
    r.2 ≤ ls ∨ le < r.1 := by
  have hxout : ¬ (r.1 ≤ x ∧ x < r.2) := fun ⟨h1, h2⟩ =>
    have ⟨y, hy, hw⟩ := hp.good.ws x h1 h2
    hxnw y hy hw
  have hnl : ∀ i, (bytesOf s)[i]? = some (.lead '\n') → ¬ (ls ≤ i ∧ i < le) := fun i hi ⟨h1, h2⟩ => hnonl i h1 h2 hi
  -- the hull starts at the seam or behind a line break, hence not inside the line
  have hS : r.1 ≤ ls ∨ le < r.1 := by
    rcases hp.startOK with h | h | ⟨_, h⟩
    · have := hstartline h; omega
    · omega
    · have := hnl _ h; omega
  -- it ends at the seam, at the line break of the seam, or at another line break, and `x` is not in it
  rcases hp.endOK with h | ⟨_, h⟩ | h
  · rcases hseam with hs | hs
    · have := hnl _ hs; omega
    · omega
  · have := hnl _ h; omega
  · have := hnl _ h; omega

/-- the line before the residue line is blank: it starts at `ls'` (not the first line of the text) -/
structure PrevBlank (b : Bytes) (ls ls' : Nat) : Prop where
  two : 2 ≤ ls'
  lt : ls' < ls
  skip : ∀ i, ls' ≤ i → i < ls - 1 → ∃ x, b[i]? = some x ∧ isSkipByte x
  nl : b[ls' - 1]? = some (.lead '\n')

/-- the line before the residue line has text: going back from its line break over blanks one meets a character -/
structure PrevText (b : Bytes) (ls q : Nat) : Prop where
  lt : q < ls - 1
  skip : ∀ i, q < i → i < ls - 1 → ∃ x, b[i]? = some x ∧ isSkipByte x
  stop : q = 0 ∨ ∃ x, b[q]? = some x ∧ isStopByte x

/-- the line after the residue line is blank: its line break is at `e` -/
structure NextBlank (b : Bytes) (pos e : Nat) : Prop where
  le : pos + 1 ≤ e
  skip : ∀ i, pos + 1 ≤ i → i < e → ∃ x, b[i]? = some x ∧ isSkipByte x
  nl : b[e]? = some (.lead '\n')

/-- the line after the residue line has text, or the text ends -/
structure NextText (b : Bytes) (pos q : Nat) : Prop where
  le : pos + 1 ≤ q
  skip : ∀ i, pos + 1 ≤ i → i < q → ∃ x, b[i]? = some x ∧ isSkipByte x
  stop : b[q]? = none ∨ ∃ x, b[q]? = some x ∧ isStopByte x

theorem prevBlank_find {b : Bytes} {ls pos ls' : Nat} (h : BlockSeam b ls pos) (hp : PrevBlank b ls ls') :
    findPrevLB b (ls - 1) true = some (ls' - 1) :=
  findPrevLB_intro b (ls - 1) (ls' - 1) true (by have := hp.two; omega) (by have := hp.lt; have := hp.two; omega)
    (by have := h.lt_len; have := h.le; omega) (fun i h1 h2 => hp.skip i (by omega) h2) hp.nl

theorem prevText_find {b : Bytes} {ls pos q : Nat} (h : BlockSeam b ls pos) (hp : PrevText b ls q) :
    findPrevLB b (ls - 1) true = none :=
  findPrevLB_pause_none b (ls - 1) q hp.lt (by have := h.lt_len; have := h.le; omega) hp.skip hp.stop

theorem nextBlank_find {b : Bytes} {pos e : Nat} (hn : NextBlank b pos e) :
    findNextLB b (pos + 1) true = some e :=
  findNextLB_intro b (pos + 1) e true (by omega) hn.le hn.skip hn.nl

theorem nextText_find {b : Bytes} {pos q : Nat} (hn : NextText b pos q) :
    findNextLB b (pos + 1) true = none :=
  findNextLB_pause_none b (pos + 1) q hn.le hn.skip hn.stop

theorem seam_exact {b : Bytes} {ls pos : Nat} (h : BlockSeam b ls pos) :
    (∀ q q', PrevText b ls q → NextText b pos q' →
      formatBlock b pos seamFormatters (pos, pos) = .ok (ls, pos + 1)) ∧
    (∀ ls' q', PrevBlank b ls ls' → NextText b pos q' →
      formatBlock b pos seamFormatters (pos, pos) = .ok (ls', pos)) ∧
    (∀ q e, PrevText b ls q → NextBlank b pos e →
      formatBlock b pos seamFormatters (pos, pos) = .ok (ls, e)) ∧
    (∀ ls' e, PrevBlank b ls ls' → NextBlank b pos e →
      formatBlock b pos seamFormatters (pos, pos) = .ok (ls', e)) := by
  refine ⟨?_, ?_, ?_, ?_⟩
  · intro q q' hp hn
    rw [h.hull, prevText_find h hp, nextText_find hn]
  · intro ls' q' hp hn
    rw [h.hull, prevBlank_find h hp, nextText_find hn]
    have := hp.two
    simp only [Except.ok.injEq, Prod.mk.injEq, and_true]; omega
  · intro q e hp hn
    rw [h.hull, prevText_find h hp, nextBlank_find hn]
    have := hn.le
    simp only [Except.ok.injEq, Prod.mk.injEq, true_and]; omega
  · intro ls' e hp hn
    rw [h.hull, prevBlank_find h hp, nextBlank_find hn]
    have := hn.le; have := hp.two
    simp only [Except.ok.injEq, Prod.mk.injEq]; omega

theorem skip_not_nl {b : Bytes} {i : Nat} (h : ∃ x, b[i]? = some x ∧ isSkipByte x) : b[i]? ≠ some (.lead '\n') :=
  fun hnl => let ⟨_, hx, hs⟩ := h; isSkipByte_ne_nl hs (Option.some.inj (hx.symm.trans hnl))

theorem hull_breaks {b : Bytes} {ls pos : Nat} (h : BlockSeam b ls pos) {S E : Nat}
    (hh : formatBlock b pos seamFormatters (pos, pos) = .ok (S, E)) (i : Nat) (hi1 : S ≤ i) (hi2 : i < E) :
    b[i]? = some (.lead '\n') ↔ i = ls - 1 ∨ i = pos := by
  refine ⟨fun hnl => ?_, fun hi => by rcases hi with rfl | rfl; exact h.before; exact h.nl⟩
  rw [h.hull] at hh
  injection hh with hh
  injection hh with hS hE
  have hle := h.le
  -- everything else in the hull is a blank: in front of the line break at `ls - 1`, on the seam's line, behind the seam
  have hleft : ¬ i < ls - 1 := fun hlt => by
    cases hP : findPrevLB b (ls - 1) true with
    | none => simp only [hP] at hS; omega
    | some lb =>
      simp only [hP] at hS
      exact skip_not_nl ((findPrevLB_some _ _ _ _ hP).2.2.2.2.2 rfl i (by omega) hlt) hnl
  have hmid : ¬ (ls ≤ i ∧ i < pos) := fun g => skip_not_nl (h.ind i g.1 g.2) hnl
  have hright : ¬ pos < i := fun hgt => by
    cases hN : findNextLB b (pos + 1) true with
    | none => simp only [hN] at hE; split at hE <;> omega
    | some e =>
      simp only [hN] at hE
      exact skip_not_nl ((findNextLB_some _ _ _ _ hN).2.2.2.2.2 rfl i (by omega) (by omega)) hnl
  omega

theorem seam_breaks {b : Bytes} {ls pos : Nat} (h : BlockSeam b ls pos) (S E : Nat)
    (hh : formatBlock b pos seamFormatters (pos, pos) = .ok (S, E)) :
    (∀ q q', PrevText b ls q → NextText b pos q' → ∀ i, S ≤ i → i < E → (b[i]? = some (.lead '\n') ↔ i = pos)) ∧
    (∀ ls' q', PrevBlank b ls ls' → NextText b pos q' → ∀ i, S ≤ i → i < E → (b[i]? = some (.lead '\n') ↔ i = ls - 1)) ∧
    (∀ q e, PrevText b ls q → NextBlank b pos e → ∀ i, S ≤ i → i < E → (b[i]? = some (.lead '\n') ↔ i = pos)) ∧
    (∀ ls' e, PrevBlank b ls ls' → NextBlank b pos e → ∀ i, S ≤ i → i < E →
      (b[i]? = some (.lead '\n') ↔ i = ls - 1 ∨ i = pos)) := by
  obtain ⟨e1, e2, e3, e4⟩ := seam_exact h
  have h2 := h.two
  have hle := h.le
  refine ⟨fun q q' hp hn i hi1 hi2 => ?_, fun ls' q' hp hn i hi1 hi2 => ?_, fun q e hp hn i hi1 hi2 => ?_,
    fun ls' e hp hn i hi1 hi2 => hull_breaks h hh i hi1 hi2⟩
  · rw [hull_breaks h hh i hi1 hi2]
    cases (e1 q q' hp hn).symm.trans hh
    omega
  · rw [hull_breaks h hh i hi1 hi2]
    cases (e2 ls' q' hp hn).symm.trans hh
    omega
  · rw [hull_breaks h hh i hi1 hi2]
    cases (e3 q e hp hn).symm.trans hh
    omega

/-- the premises are satisfiable: `"foo\n\n  \n\nbar\n"`, residue line `"  "` at 5..7, a blank line on both sides -/
example : BlockSeam (bytesOf "foo\n\n  \n\nbar\n".toList) 5 7 ∧ PrevBlank (bytesOf "foo\n\n  \n\nbar\n".toList) 5 4 ∧
    NextBlank (bytesOf "foo\n\n  \n\nbar\n".toList) 7 8 := by
  have hb : bytesOf "foo\n\n  \n\nbar\n".toList = [.lead 'f', .lead 'o', .lead 'o', NL, NL, .lead ' ', .lead ' ', NL, NL,
    .lead 'b', .lead 'a', .lead 'r', NL] := by decide_lit
  rw [hb]
  refine ⟨⟨by omega, by omega, rfl, ?_, rfl⟩, ⟨by omega, by omega, ?_, rfl⟩, ⟨by omega, ?_, rfl⟩⟩
  · intro i h1 h2
    have : i = 5 ∨ i = 6 := by omega
    rcases this with rfl | rfl <;> exact ⟨.lead ' ', rfl, Or.inr (Or.inl rfl)⟩
  · intro i h1 h2; omega
  · intro i h1 h2; omega

/-! Kernel-evaluated instances: the four (b, a) shapes around one seam. -/
def hull (src : String) (pos : Nat) : Option (Nat × Nat) :=
  match formatBlock (bytesOf src.toList) pos seamFormatters (pos, pos) with
  | .ok r => some r
  | .error _ => none
example : hull "foo\n  \nbar\n" 6 = some (4, 7) := by decide_lit             -- b = 0, a = 0: the residue line goes
example : hull "foo\n\n  \nbar\n" 7 = some (4, 7) := by decide_lit           -- b = 1, a = 0: one blank line stays
example : hull "foo\n  \n\nbar\n" 6 = some (4, 7) := by decide_lit           -- b = 0, a = 1
example : hull "foo\n\n  \n\nbar\n" 7 = some (4, 8) := by decide_lit         -- b = 1, a = 1: one of the two goes

end Chiritori.Props.C13
