import Chiritori.Lemmas.DecideLit
import Chiritori.Props.C13
import Chiritori.Props.C14
import Chiritori.Lemmas.Lines13
/-
  C13 (a) at document level.

  `c13_lines`: for every source whose removals are all block-style (`BlockStyleK`: in the text after removal every
  seam is followed by a line break - or the end - and preceded on its line by blanks only, the line not being the
  first of the text unless the seam stands at column 0) and in which no ready element carries `unwrap-block`, the
  output of `clean` consists of the non-blank lines of the text after removal - i.e. of the surviving non-blank
  lines of the source - byte for byte, indentation and line break included, each at the beginning of a line, in
  order, with nothing but whitespace between them (`LL`).

  The proof starts from `format_deleted` (Lemmas/FormatAnchored.lean): which bytes the formatting pass deletes, in terms
  of the ranges its loop collects.
-/
namespace Chiritori.Props.C13
open Chiritori Chiritori.Spec

def BlockStyleK (K : Bytes) (pos : List Nat) : Prop :=
  ∀ p ∈ pos, (K[p]? = some NL ∨ p = K.length) ∧ p ≤ K.length ∧
    ∃ ls, ls ≤ p ∧ IsLS K ls ∧ (∀ i, ls ≤ i → i < p → ∃ x, K[i]? = some x ∧ isBlankByte x) ∧ (ls = 0 → p = 0)

/-- the seam `p` stands behind nothing but blanks on a line that starts at `ls`, and is followed by a line break or the end
    of the text; that line is the first of the text only if the seam is at offset 0 -/
structure BlockStyleAt (K : Bytes) (p ls : Nat) : Prop where
  nl : K[p]? = some NL ∨ p = K.length
  le : ls ≤ p
  isLS : IsLS K ls
  blank : ∀ i, ls ≤ i → i < p → ∃ x, K[i]? = some x ∧ isBlankByte x
  first : ls = 0 → p = 0

namespace BlockStyleAt
variable {K : Bytes} {p ls : Nat}

theorem le_len (h : BlockStyleAt K p ls) : p ≤ K.length := by
  rcases h.nl with hnl | hend
  · exact Nat.le_of_lt (lt_of_getElem?_some _ _ _ hnl)
  · omega

theorem skip (h : BlockStyleAt K p ls) (i : Nat) (h1 : ls ≤ i) (h2 : i < p) : ∃ x, K[i]? = some x ∧ isSkipByte x :=
  (h.blank i h1 h2).imp fun _ hx => ⟨hx.1, Or.inr hx.2⟩

end BlockStyleAt

theorem blockStyleK_iff {K : Bytes} {pos : List Nat} : BlockStyleK K pos ↔ ∀ p ∈ pos, ∃ ls, BlockStyleAt K p ls :=
  ⟨fun h p hp => have ⟨h1, _, ls, h2, h3, h4, h5⟩ := h p hp; ⟨ls, h1, h2, h3, h4, h5⟩,
    fun h p hp => have ⟨ls, hb⟩ := h p hp; ⟨hb.nl, hb.le_len, ls, hb.le, hb.isLS, hb.blank, hb.first⟩⟩

theorem lineStart_iff {K : Bytes} {x : Nat} : LineStart K x ↔ IsLS K x :=
  ⟨fun h => h.imp id And.right, fun h => (Nat.eq_zero_or_pos x).imp id fun hx => ⟨hx, h.resolve_left (by omega)⟩⟩

theorem nonws_not_wsByte {K : Bytes} {x : Nat} (h : ∃ y, K[x]? = some y ∧ isWs y = false) :
    ¬ ∃ z, K[x]? = some z ∧ isWsByte z := by
  rintro ⟨z, hz, hw⟩
  obtain ⟨y, hy, hyw⟩ := h
  cases hy.symm.trans hz
  rw [isWs_of_isWsByte z hw] at hyw
  cases hyw

/-- the hull of a block-style seam reaches at least to the start of the seam's line: `IndentRemover` finds it -/
theorem hull_le_ls {b : Bytes} {pos ls : Nat} {r : Rng'} (hb : BlockStyleAt b pos ls) (hnl : b[pos]? = some NL)
    (h : formatBlock b pos seamFormatters (pos, pos) = .ok r) : r.1 ≤ ls := by
  obtain ⟨r1, _, r3, _, h1, _, _, _, rfl⟩ := seamHull_ok.mp h
  have hr1 : r1.1 ≤ ls := by
    by_cases hlp : ls = pos
    · rw [hlp]; exact (fmtIndent_inv h1).2.1
    · have h0 : 0 < ls := Nat.pos_of_ne_zero fun h0 => hlp (by rw [h0, hb.first h0])
      rw [fmtIndent_intro _ _ _ hnl h0 hb.le hb.skip (hb.isLS.resolve_left (by omega))] at h1
      cases h1
      exact Nat.le_refl _
  exact Nat.le_trans (Nat.min_le_right _ _) hr1

theorem hull_start_ls (s : List Char) (pos ls : Nat) (r : Rng') (hb : BlockStyleAt (bytesOf s) pos ls)
    (h : formatBlock (bytesOf s) pos seamFormatters (pos, pos) = .ok r)
    (hne : r.1 < (bytesOf s).length) : IsLS (bytesOf s) r.1 := by
  rcases (hull_shape s pos r h).startOK with hs | hs
  · -- the hull starts at the seam itself: then the seam's line has no indentation
    rcases hb.nl with hnl | hend
    · have := hull_le_ls hb hnl h
      have := hb.le
      rw [show r.1 = ls by omega]
      exact hb.isLS
    · omega
  · exact lineStart_iff.mp hs

theorem hull_avoids_line (s : List Char) {p lsp ls le x : Nat} {r : Rng'} (hb : BlockStyleAt (bytesOf s) p lsp)
    (h : formatBlock (bytesOf s) p seamFormatters (p, p) = .ok r) (hl : NonBlankLine (bytesOf s) ls le x) :
    r.2 ≤ ls ∨ le < r.1 := by
  have hxlen : x < blen s := by
    obtain ⟨y, hy, _⟩ := hl.nonws
    simpa using lt_of_getElem?_some _ _ _ hy
  refine non_blank_line_intact s p r (hull_shape s p r h) (hb.nl.imp id (by simp)) ls le x (lineStart_iff.mpr hl.isLS)
    hl.le_x hl.x_lt hl.nonl (fun y hy hw => nonws_not_wsByte hl.nonws ⟨y, hy, hw⟩) hxlen fun _ => ?_
  -- a seam inside the line would be the line break that ends it, on a line of blanks
  by_cases hin : ls < p ∧ p ≤ le
  · exfalso
    have hpe : p = le := by
      rcases hb.nl with hnl | hend
      · have : ¬ p < le := fun hlt => hl.nonl p (by omega) hlt hnl
        omega
      · have := hl.len; omega
    have hlseq : lsp = ls :=
      isLS_unique hb.isLS hl.isLS hb.le (by omega) (fun i h1 h2 => skip_not_nl (hb.skip i h1 h2)) (hpe ▸ hl.nonl)
    obtain ⟨z, hz, hzb⟩ := hb.blank x (hlseq ▸ hl.le_x) (hpe ▸ hl.x_lt)
    exact nonws_not_wsByte hl.nonws ⟨z, hz, hzb.elim Or.inl fun h => Or.inr (Or.inl h)⟩
  · omega

/-- a hull reaches left over at most one line break; that is why the hulls of block-style seams are sorted by start -/
def LeftOneNL (b : Bytes) (pos S : Nat) : Prop :=
  ∀ i j, S ≤ i → i < j → j < pos → b[i]? = some NL → b[j]? = some NL → False

theorem hull_one_nl (b : Bytes) (pos : Nat) (r : Rng')
    (h : formatBlock b pos seamFormatters (pos, pos) = .ok r) : LeftOneNL b pos r.1 := by
  obtain ⟨r1, _, r3, _, h1, _, h3, _, rfl⟩ := seamHull_ok.mp h
  intro i j hi hij hj hni hnj
  rcases Nat.le_total r3.1 r1.1 with hm | hm
  · -- the hull starts where `PrevLineBreakRemover` says: both line breaks would have to be the one between the two lines
    rw [Nat.min_eq_left hm] at hi
    obtain ⟨_, _, hs | ⟨p1, _, _, _, _, _, hsk1, hsk2⟩⟩ := fmtPrev_inv h3
    · omega
    · have : ¬ i < p1 := fun hlt => skip_not_nl (hsk1 i hi hlt) hni
      have : ¬ p1 < j := fun hgt => skip_not_nl (hsk2 j hgt hj) hnj
      omega
  · -- where `IndentRemover` says: no line break at all
    rw [Nat.min_eq_right hm] at hi
    obtain ⟨_, _, hs | ⟨_, _, hsk⟩⟩ := fmtIndent_inv h1
    · omega
    · exact skip_not_nl (hsk i hi (by omega)) hni

theorem hull_sorted_pair (s : List Char) (p q : Nat) (rp rq : Rng')
    (hbp : BlockStyleK (bytesOf s) [p]) (hpq : p ≤ q) (hqlen : q ≤ (bytesOf s).length)
    (hp : formatBlock (bytesOf s) p seamFormatters (p, p) = .ok rp)
    (hq : formatBlock (bytesOf s) q seamFormatters (q, q) = .ok rq) : rp.1 ≤ rq.1 := by
  by_cases heq : p = q
  · subst heq
    cases hp.symm.trans hq
    exact Nat.le_refl _
  · obtain ⟨ls, hb⟩ := blockStyleK_iff.mp hbp p (by simp)
    have hnl : (bytesOf s)[p]? = some NL := hb.nl.resolve_right (by omega)
    have := hull_le_ls hb hnl hp
    have := hb.le
    -- a hull of `q` that starts further left would reach over the line breaks at `ls - 1` and at `p`
    by_cases hc : rp.1 ≤ rq.1
    · exact hc
    · exact (hull_one_nl _ q rq hq (ls - 1) p (by omega) (by omega) (by omega)
        (hb.isLS.resolve_left (by omega)) hnl).elim

def PosSorted : List (Nat × Option Nat) → Prop
  | [] => True
  | [_] => True
  | x :: y :: rest => x.1 ≤ y.1 ∧ PosSorted (y :: rest)

theorem hulls_sorted (s : List Char) (ps : List (Nat × Option Nat)) (hps : PosSorted ps)
    (hbs : BlockStyleK (bytesOf s) (ps.map (·.1)))
    (hh : ∀ p ∈ ps, formatBlock (bytesOf s) p.1 seamFormatters (p.1, p.1) = .ok (seamHull (bytesOf s) p.1)) :
    StartSorted (ps.map fun p => seamHull (bytesOf s) p.1) := by
  induction ps with
  | nil => trivial
  | cons x rest ih =>
    cases rest with
    | nil => trivial
    | cons y rest =>
      exact ⟨hull_sorted_pair s x.1 y.1 _ _ (fun p hp => hbs p (List.mem_singleton.mp hp ▸ List.mem_cons_self)) hps.1
          (hbs y.1 (List.mem_cons_of_mem _ List.mem_cons_self)).2.1 (hh x List.mem_cons_self)
          (hh y (List.mem_cons_of_mem _ List.mem_cons_self)),
        ih hps.2 (fun p hp => hbs p (List.mem_cons_of_mem _ hp)) fun p hp => hh p (List.mem_cons_of_mem _ hp)⟩

theorem posSorted_zip (ms : List Marker) (k lo hi : Nat) (h : MSorted ms lo hi) (hk : k ≤ lo) :
    PosSorted ((positions ms k).zip (ms.map (·.pair))) := by
  induction ms generalizing k lo with
  | nil => trivial
  | cons m ms ih =>
    cases ms with
    | nil => trivial
    | cons m' ms =>
      obtain ⟨h1, h2, h3⟩ := h
      have := h3.1
      exact ⟨show m.start - k ≤ m'.start - (k + (m.stop - m.start)) by omega, ih _ m.stop h3 (by omega)⟩

/- `MSorted` and `PosSorted` are sealed here and wherever `removedPos_sorted` is used: to see what kind of proposition
   `PosSorted (.. buildRemoveMarker ..)` is, the elaborator would unfold `build_remove_marker` at each step that mentions it. -/
attribute [local irreducible] MSorted PosSorted in
theorem removedPos_sorted (src ds de : List Char) (cfg : Cfg) (hde : de ≠ []) :
    PosSorted ((positions (buildRemoveMarker cfg (bytesOf src) (parseSource src ds de)) 0).zip
      ((buildRemoveMarker cfg (bytesOf src) (parseSource src ds de)).map (·.pair))) :=
  posSorted_zip _ 0 0 (blen src) (buildRemoveMarker_spec src ds de cfg hde).1 (Nat.le_refl _)

/-- the non-blank lines of a text, each with its line break -/
def nonBlankLinesT (K : Bytes) : List Bytes := (lineLayout (linesT K []) []).1.map (·.2)

/-- C13 (a) for the formatting pass: block-style seams, no unwrap pairs -/
theorem format_lines (s1 : List Char) (pos : List (Nat × Option Nat)) (o : Bytes)
    (hnp : ∀ p ∈ pos, p.2 = none) (hbs : BlockStyleK (bytesOf s1) (pos.map (·.1)))
    (hf : format (bytesOf s1) pos = .ok o) : LL (nonBlankLinesT (bytesOf s1)) o := by
  obtain ⟨rs, bs, F, hfc, rfl, hF, hsub, _⟩ := format_deleted s1 pos o hf
  cases formatCollect_noblocks _ pos pos rs bs hnp hfc
  obtain ⟨hhull, rfl, _⟩ := formatCollect_eq _ _ _ _ _ hfc
  -- every range comes with a block-style seam whose hull it is
  have hseam : ∀ r ∈ pos.map (fun p => seamHull (bytesOf s1) p.1), ∃ p lsp, BlockStyleAt (bytesOf s1) p lsp ∧
      formatBlock (bytesOf s1) p seamFormatters (p, p) = .ok r := by
    intro r hr
    obtain ⟨p, hp, rfl⟩ := List.mem_map.mp hr
    obtain ⟨lsp, hb⟩ := blockStyleK_iff.mp hbs p.1 (List.mem_map_of_mem hp)
    exact ⟨p.1, lsp, hb, hhull p hp⟩
  refine LL_lines F _ (avoidsLines_iff.mpr fun ls le x hl d hd1 hd2 _ => ?_) fun i hi hprev => ?_
  · -- the deleted indices avoid the non-blank lines
    cases hFd : inAny F d with
    | false => rfl
    | true =>
      obtain ⟨r, hr, hrd⟩ := (inAny_iff _ _).mp ((hsub d hFd).resolve_right (by simp [inAny]))
      obtain ⟨p, lsp, hb, hfb⟩ := hseam r hr
      have := hull_avoids_line s1 hb hfb hl
      omega
  · -- a maximal deleted run starts where a hull starts
    obtain ⟨r, hr, hri⟩ := (inAny_iff _ _).mp hi
    have hstart : r.1 = i := by
      rcases hprev with h0 | hprev
      · omega
      · by_cases he : r.1 = i
        · exact he
        · rw [(inAny_iff _ _).mpr ⟨r, hr, by omega, by omega⟩] at hprev
          cases hprev
    obtain ⟨hlen, x, hx, e⟩ := hF r hr
    obtain ⟨p, lsp, hb, hfb⟩ := hseam x (hx.resolve_right (List.not_mem_nil))
    rw [← hstart, e]
    exact hull_start_ls s1 p lsp x hb hfb (by simp only [bytesOf_length]; omega)

theorem pairs_none (src ds de : List Char) (cfg : Cfg) (hnu : NoReadyUnwrap cfg (parseSource src ds de)) :
    ∀ p ∈ (positions (buildRemoveMarker cfg (bytesOf src) (parseSource src ds de)) 0).zip
      ((buildRemoveMarker cfg (bytesOf src) (parseSource src ds de)).map (·.pair)), p.2 = none := by
  intro p hp
  obtain ⟨m, hm, hmp⟩ := List.mem_map.mp (List.of_mem_zip hp).2
  rw [← hmp]
  exact mergeMarkers_nopair _ [] (collect_nopairs cfg (bytesOf src) _ hnu) (by simp) m hm

theorem c13_lines (src ds de : List Char) (cfg : Cfg) (out : List Char) (hde : de ≠ [])
    (hnu : NoReadyUnwrap cfg (parseSource src ds de))
    (hbs : BlockStyleK (minusRanges (bytesOf src) (extentsOfSource src ds de cfg))
      (positions (buildRemoveMarker cfg (bytesOf src) (parseSource src ds de)) 0))
    (h : clean src ds de cfg = .ok out) :
    LL (nonBlankLinesT (minusRanges (bytesOf src) (extentsOfSource src ds de cfg))) (bytesOf out) := by
  obtain ⟨s1, hs1, hf⟩ := clean_ok src ds de cfg out hde h
  rw [← hs1] at hbs ⊢
  exact format_lines s1 _ _ (pairs_none src ds de cfg hnu) (by rw [map_fst_zip_positions]; exact hbs) hf

theorem nonBlankLinesT_eq (K : Bytes) : nonBlankLinesT K = nonBlankLines K := lineLayout_cores _ _

/-- C13 (a), as an equation: the non-blank lines of the output are the non-blank lines of the text after removal
    (= the surviving non-blank lines of the source), byte for byte, in order -/
theorem c13_lines_eq (src ds de : List Char) (cfg : Cfg) (out : List Char) (hde : de ≠ [])
    (hnu : NoReadyUnwrap cfg (parseSource src ds de))
    (hbs : BlockStyleK (minusRanges (bytesOf src) (extentsOfSource src ds de cfg))
      (positions (buildRemoveMarker cfg (bytesOf src) (parseSource src ds de)) 0))
    (h : clean src ds de cfg = .ok out) :
    nonBlankLines (bytesOf out) = nonBlankLines (minusRanges (bytesOf src) (extentsOfSource src ds de cfg)) := by
  have hLL := c13_lines src ds de cfg out hde hnu hbs h
  rw [nonBlankLinesT_eq] at hLL
  apply lines_of_LL _ _ hLL
  intro c hc
  simp only [nonBlankLines, List.mem_filter] at hc
  exact ⟨linesOK_single _ (linesT_ok _ [] (by simp)) c hc.1, by simpa [nbl] using hc.2⟩

theorem lineStartBlank_spec (K : Bytes) (fuel p ls : Nat) (h : lineStartBlank K fuel p = some ls) :
    ls ≤ p ∧ IsLS K ls ∧ (∀ i, ls ≤ i → i < p → ∃ x, K[i]? = some x ∧ isBlankByte x) := by
  induction fuel generalizing p with
  | zero =>
    rw [lineStartBlank] at h
    split at h <;> cases h
    exact ⟨Nat.zero_le _, Or.inl rfl, fun i _ h2 => by omega⟩
  | succ fuel ih =>
    rw [lineStartBlank] at h
    split at h
    · cases h
      exact ⟨Nat.zero_le _, Or.inl rfl, fun i _ h2 => by omega⟩
    · split at h
      · rename_i x hx
        split at h
        · rename_i hnl
          cases h
          exact ⟨Nat.le_refl _, Or.inr (hx.trans (congrArg some (beq_iff_eq.mp hnl))), fun i h1 h2 => by omega⟩
        · split at h
          · rename_i hb
            obtain ⟨g1, g2, g3⟩ := ih _ h
            refine ⟨Nat.le_trans g1 (Nat.sub_le _ _), g2, fun i h1 h2 => ?_⟩
            rcases Nat.lt_or_ge i (p - 1) with hi | hi
            · exact g3 i h1 hi
            · rw [show i = p - 1 by omega]
              simp only [isBlankB, Bool.or_eq_true, beq_iff_eq] at hb
              exact ⟨x, hx, hb⟩
          · cases h
      · cases h

theorem blockStyleB_sound (K : Bytes) (pos : List Nat) (h : blockStyleB K pos = true) : BlockStyleK K pos := by
  intro p hp
  simp only [blockStyleB, List.all_eq_true] at h
  have := h p hp
  simp only [Bool.and_eq_true, Bool.or_eq_true, beq_iff_eq, decide_eq_true_eq] at this
  obtain ⟨⟨h1, h2⟩, h3⟩ := this
  cases hl : lineStartBlank K (p + 1) p with
  | none => rw [hl] at h3; simp at h3
  | some ls =>
    rw [hl] at h3
    obtain ⟨g1, g2, g3⟩ := lineStartBlank_spec K (p + 1) p ls hl
    refine ⟨h1, h2, ls, g1, g2, g3, ?_⟩
    intro hls
    simp only [Bool.or_eq_true, Bool.not_eq_true', beq_eq_false_iff_ne, ne_eq, beq_iff_eq] at h3
    rcases h3 with h3 | h3
    · exact absurd hls h3
    · exact h3

theorem noReadyUnwrapB_sound (cfg : Cfg) (parts : List Part) (h : noReadyUnwrapB cfg parts = true) :
    NoReadyUnwrap cfg parts := by
  intro e he hc
  simp only [noReadyUnwrapB, List.all_eq_true] at h
  have := h e he
  simp only [hc, Bool.not_true, Bool.false_or, Bool.not_eq_true'] at this
  exact this

/-- the predicate the check evaluates on the implementation's output (`Spec.c13Holds`) is a theorem of the model -/
theorem c13Holds_model (src ds de : List Char) (cfg : Cfg) (out : List Char) (hde : de ≠ [])
    (h : clean src ds de cfg = .ok out) (r : Bool) (hr : c13Holds src ds de cfg out = some r) : r = true := by
  unfold c13Holds at hr
  simp only [getRemovedPos_eq _ _ (buildRemoveMarker_spec src ds de cfg hde).1, map_fst_zip_positions] at hr
  split at hr
  · rename_i hcond
    simp only [Bool.and_eq_true] at hcond
    cases hr
    rw [beq_iff_eq]
    exact c13_lines_eq src ds de cfg out hde (noReadyUnwrapB_sound _ _ hcond.1) (blockStyleB_sound _ _ hcond.2) h
  · cases hr

/-! Non-vacuity: two block-style removals (one indented, blank lines around), a pending block in between. -/
def exCfg : Cfg := ⟨"tl".toList, "rm".toList, 1577836800, 0, "+00:00".toList, ["a".toList]⟩
def exSrc : List Char :=
  "foo\n\n  <rm name='a'>\n  x\n  </rm>\n\n  bar\n<rm name='b'>\n\ty é\n</rm>\n<tl to='2000-01-01 00:00:00'>\nz\n</tl>\nend".toList
theorem ok_of_toOption {α : Type} {x : R α} {a : α} (h : x.toOption = some a) : x = .ok a := by
  cases x with
  | error e => cases h
  | ok v => cases h; rfl

/-- the removed ranges of the example, evaluated once -/
theorem exM_eq : buildRemoveMarker exCfg (bytesOf exSrc) (parseSource exSrc "<".toList ">".toList) =
    [⟨7, 32, none⟩, ⟨66, 103, none⟩] := by decide_lit exSrc exCfg

theorem exK_eq : minusRanges (bytesOf exSrc) (extentsOfSource exSrc "<".toList ">".toList exCfg) =
    bytesOf "foo\n\n  \n\n  bar\n<rm name='b'>\n\ty é\n</rm>\n\nend".toList :=
  (removeMarkers_source exSrc _ _ exCfg (by decide) _ (ok_of_toOption (by rw [exM_eq]; decide_lit exSrc))).symm

example : blockStyleB (minusRanges (bytesOf exSrc) (extentsOfSource exSrc "<".toList ">".toList exCfg))
    (positions (buildRemoveMarker exCfg (bytesOf exSrc) (parseSource exSrc "<".toList ">".toList)) 0) = true := by
  rw [exK_eq, exM_eq]; decide_lit
example : (nonBlankLines (minusRanges (bytesOf exSrc) (extentsOfSource exSrc "<".toList ">".toList exCfg))).length = 6 := by
  rw [exK_eq]; decide_lit

end Chiritori.Props.C13
