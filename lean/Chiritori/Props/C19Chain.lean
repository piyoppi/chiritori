import Chiritori.Lemmas.DecideLit
import Chiritori.Props.C19Idem
/-
  C19, second clause, for default-strategy removals in well-delimited sources: cleaning step by step with
  configurations that never go back (`Chain`: each is `CfgLe` the next - the clock does not go back and no removal
  target is withdrawn) gives, up to whitespace, what one cleaning with the last configuration gives
  (`compose_chain`; `compose_default` is the chain of two).

  One step (`clean_step`): the output is, piece by piece, the token list of the pruned forest - tags as they were,
  texts up to whitespace (`clean_shape`); two token streams related that way parse to forests that no pruning
  followed by reading the non-whitespace text can tell apart (`parse_rel`, Lemmas/RelParse.lean); and the forest of
  what is left is what is left of the forest (`parse_pruned`).  Along the steps (`chain_aux`) the document stays
  well-delimited, gains no element, and - pruning by the last, largest predicate absorbs the earlier prunings
  (`prune_prune`, `ready_monotone`) - reads the same once pruned by the last configuration.  Only that every
  configuration is `CfgLe` the last one is used, not their order among themselves.
-/
namespace Chiritori.Props.C19
open Chiritori Chiritori.Spec

theorem CfgLe.refl (c : Cfg) : CfgLe c c :=
  ⟨rfl, rfl, rfl, Or.inr ⟨rfl, Nat.le_refl _⟩, fun _ h => h⟩

theorem CfgLe.trans {a b c : Cfg} (h1 : CfgLe a b) (h2 : CfgLe b c) : CfgLe a c := by
  refine ⟨h1.tl.trans h2.tl, h1.rm.trans h2.rm, h1.off.trans h2.off, ?_, fun t ht => h2.targets t (h1.targets t ht)⟩
  rcases h1.time with t1 | ⟨t1, n1⟩ <;> rcases h2.time with t2 | ⟨t2, n2⟩
  · exact Or.inl (by omega)
  · exact Or.inl (by omega)
  · exact Or.inl (by omega)
  · exact Or.inr ⟨by omega, by omega⟩

def Chain : List Cfg → Prop
  | [] => True
  | [_] => True
  | c1 :: c2 :: rest => CfgLe c1 c2 ∧ Chain (c2 :: rest)

theorem chain_tail : ∀ (c : Cfg) (rest : List Cfg), Chain (c :: rest) → Chain rest
  | _, [], _ => trivial
  | _, _ :: _, h => h.2

theorem chain_head_le : ∀ (rest : List Cfg) (c : Cfg), Chain (c :: rest) → ∀ c' ∈ rest, CfgLe c c'
  | [], _, _, c', hc' => by simp at hc'
  | c2 :: rest, c, h, c', hc' => by
    rcases List.mem_cons.mp hc' with rfl | hm
    · exact h.1
    · exact h.1.trans (chain_head_le rest c2 h.2 c' hm)

theorem chain_le_last : ∀ (cfgs : List Cfg) (cn : Cfg), Chain (cfgs ++ [cn]) → ∀ c ∈ cfgs, CfgLe c cn
  | [], _, _, c, hc => by simp at hc
  | c0 :: rest, cn, h, c, hc => by
    rcases List.mem_cons.mp hc with rfl | hm
    · exact chain_head_le _ _ h cn (by simp)
    · exact chain_le_last rest cn (chain_tail _ _ h) c hm

def cleanChain (ds de : List Char) : List Cfg → List Char → Except Panic (List Char)
  | [], src => .ok src
  | c :: cs, src =>
    match clean src ds de c with
    | .ok o => cleanChain ds de cs o
    | .error e => .error e

theorem cleanChain_cons_ok (ds de : List Char) (c : Cfg) (cs : List Cfg) (src out : List Char) :
    cleanChain ds de (c :: cs) src = .ok out ↔ ∃ o, clean src ds de c = .ok o ∧ cleanChain ds de cs o = .ok out := by
  rw [cleanChain]
  cases clean src ds de c <;> simp

theorem cleanChain_append_ok (ds de : List Char) (a b : List Cfg) (src out : List Char) :
    cleanChain ds de (a ++ b) src = .ok out ↔
      ∃ mid, cleanChain ds de a src = .ok mid ∧ cleanChain ds de b mid = .ok out := by
  induction a generalizing src with
  | nil => simp [cleanChain]
  | cons c a ih =>
    simp only [List.cons_append, cleanChain_cons_ok, ih]
    exact ⟨fun ⟨o, h1, mid, h2, h3⟩ => ⟨mid, ⟨o, h1, h2⟩, h3⟩,
      fun ⟨mid, ⟨o, h1, h2⟩, h3⟩ => ⟨o, h1, mid, h2, h3⟩⟩

theorem prune_union (P Q : Element → Bool) : ∀ (a : List Part),
    pruneParts Q (pruneParts P a) = pruneParts (fun e => P e || Q e) a := by
  intro a
  induction a using parts_induction with
  | nil => rfl
  | text t rest ih => simp [pruneParts, prunePart, ih]
  | element el st en ch rest ihc ihr =>
    cases h1 : P el <;> simp [pruneParts, prunePart, h1, ihc, ihr]

theorem prunePart_union (P Q : Element → Bool) : ∀ (p : Part),
    pruneParts Q (prunePart P p) = prunePart (fun e => P e || Q e) p := by
  intro p
  simpa [pruneParts] using prune_union P Q [p]

theorem prune_false (a : List Part) : pruneParts (fun _ => false) a = a := by
  induction a using parts_induction with
  | nil => rfl
  | text t rest ih => simp [pruneParts, prunePart, ih]
  | element el st en ch rest ihc ihr => simp [pruneParts, prunePart, ihc, ihr]

theorem prunePart_false : ∀ (p : Part), prunePart (fun _ => false) p = [p] := by
  intro p
  simpa [pruneParts] using prune_false [p]

def WellDelim (d0 : Char) (dr : List Char) (e0 : Char) (er : List Char) (src : List Char) : Prop :=
  ∃ ps : List Piece, (∀ p ∈ ps, p.ok d0 e0) ∧ src = renderAll (d0 :: dr) (e0 :: er) ps

section
variable {d0 : Char} {dr : List Char} {e0 : Char} {er : List Char}

theorem noReadyUnwrap_of_elements {cfg : Cfg} {G H : List Part} (hnu : NoReadyUnwrap cfg G)
    (h : ∀ e ∈ elementsOf H, ∃ e' ∈ elementsOf G, e'.1 = e.1) : NoReadyUnwrap cfg H := by
  intro e he
  obtain ⟨e', he', hee⟩ := h e he
  exact hee ▸ hnu e' he'

theorem clean_step (hd0 : wsChar d0 = false) (hel : ∀ w c, (e0 :: er) = w ++ [c] → wsChar c = false)
    (src : List Char) (hw : WellDelim d0 dr e0 er src) (cfg : Cfg) (out : List Char)
    (hnu : NoReadyUnwrap cfg (parseSource src (d0 :: dr) (e0 :: er)))
    (h : clean src (d0 :: dr) (e0 :: er) cfg = .ok out) :
    WellDelim d0 dr e0 er out ∧
    RelParts (parseSource out (d0 :: dr) (e0 :: er))
      (pruneParts (conditionHolds cfg) (parseSource src (d0 :: dr) (e0 :: er))) ∧
    (elementsOf (parseSource out (d0 :: dr) (e0 :: er))).map (·.1) =
      (elementsOf (pruneParts (conditionHolds cfg) (parseSource src (d0 :: dr) (e0 :: er)))).map (·.1) := by
  obtain ⟨ps, hok, rfl⟩ := hw
  obtain ⟨ps', q1, rfl, q4⟩ := clean_shape d0 dr e0 er hd0 hel ps hok cfg out hnu h
  refine ⟨⟨ps', q1, rfl⟩, ?_, ?_⟩
  · have htr := tokRel_of_pRel (d0 :: dr) (e0 :: er) ps' _ [] [] _ q4 (by simp) rfl (tokens_tnorm d0 dr e0 er ps' q1)
    have := parse_rel (d0 :: dr) (e0 :: er) _ _ (by simpa using htr)
    rwa [parseSource, parse_pruned] at this
  · exact elements_of_tags _ _ _ (pruneParts (conditionHolds cfg) (parseSource _ _ _))
      (by rw [tagValues_render d0 dr e0 er ps' q1, tagsOf_of_pRel _ _ _ _ q4]) (parse_pruned _ _ _ _)

theorem clean_nw (hd0 : wsChar d0 = false) (hel : ∀ w c, (e0 :: er) = w ++ [c] → wsChar c = false)
    (src : List Char) (hw : WellDelim d0 dr e0 er src) (cfg : Cfg) (out : List Char)
    (hnu : NoReadyUnwrap cfg (parseSource src (d0 :: dr) (e0 :: er)))
    (h : clean src (d0 :: dr) (e0 :: er) cfg = .ok out) :
    nwC out = nwflat (pruneParts (conditionHolds cfg) (parseSource src (d0 :: dr) (e0 :: er))) := by
  have := (clean_step hd0 hel src hw cfg out hnu h).2.1 (fun _ => false)
  rw [prune_false, prune_false] at this
  rw [← this, nwflat, parseSource, parse_flatten, (tokenize_ok out _ _ (by simp)).1.flatEq]

theorem chain_aux (hd0 : wsChar d0 = false) (hel : ∀ w c, (e0 :: er) = w ++ [c] → wsChar c = false) (cn : Cfg)
    (cfgs : List Cfg) (hle : ∀ c ∈ cfgs, CfgLe c cn) (x y : List Char) (hw : WellDelim d0 dr e0 er x)
    (hnu : NoReadyUnwrap cn (parseSource x (d0 :: dr) (e0 :: er)))
    (hy : cleanChain (d0 :: dr) (e0 :: er) cfgs x = .ok y) :
    WellDelim d0 dr e0 er y ∧ NoReadyUnwrap cn (parseSource y (d0 :: dr) (e0 :: er)) ∧
      nwflat (pruneParts (conditionHolds cn) (parseSource y (d0 :: dr) (e0 :: er))) =
        nwflat (pruneParts (conditionHolds cn) (parseSource x (d0 :: dr) (e0 :: er))) := by
  induction cfgs generalizing x with
  | nil => exact Except.ok.inj hy ▸ ⟨hw, hnu, rfl⟩
  | cons c rest ih =>
    obtain ⟨o, hc, hy⟩ := (cleanChain_cons_ok _ _ c rest x y).mp hy
    have hmono := ready_monotone c cn (hle c (List.mem_cons_self ..))
    obtain ⟨hwo, hrel, hels⟩ := clean_step hd0 hel x hw c o (fun e he hce => hnu e he (hmono _ hce)) hc
    have hnuo := noReadyUnwrap_of_elements hnu (H := parseSource o (d0 :: dr) (e0 :: er)) fun e he =>
      (mem_of_map_fst_eq hels e he).imp fun e' h' => ⟨(mem_elementsOf_prune _ _ e' h'.1).1, h'.2⟩
    obtain ⟨hwy, hnuy, hnw⟩ := ih (fun c' h' => hle c' (List.mem_cons_of_mem _ h')) o hwo hnuo hy
    exact ⟨hwy, hnuy, by rw [hnw, hrel, prune_prune _ _ hmono]⟩

end

/-- C19 (second clause) along a chain of configurations, for default-strategy removals in well-delimited sources -/
theorem compose_chain (d0 : Char) (dr : List Char) (e0 : Char) (er : List Char)
    (hd0 : wsChar d0 = false) (hel : ∀ w c, (e0 :: er) = w ++ [c] → wsChar c = false)
    (ps : List Piece) (hok : ∀ p ∈ ps, p.ok d0 e0) (cfgs : List Cfg) (cn : Cfg) (hch : Chain (cfgs ++ [cn]))
    (outN out1 : List Char)
    (hnu : NoReadyUnwrap cn (parseSource (renderAll (d0 :: dr) (e0 :: er) ps) (d0 :: dr) (e0 :: er)))
    (hN : cleanChain (d0 :: dr) (e0 :: er) (cfgs ++ [cn]) (renderAll (d0 :: dr) (e0 :: er) ps) = .ok outN)
    (h1 : clean (renderAll (d0 :: dr) (e0 :: er) ps) (d0 :: dr) (e0 :: er) cn = .ok out1) :
    nwC outN = nwC out1 := by
  have hw : WellDelim d0 dr e0 er (renderAll (d0 :: dr) (e0 :: er) ps) := ⟨ps, hok, rfl⟩
  obtain ⟨mid, hmid, hN⟩ := (cleanChain_append_ok _ _ cfgs [cn] _ outN).mp hN
  obtain ⟨o, hN, ho⟩ := (cleanChain_cons_ok _ _ cn [] mid outN).mp hN
  obtain ⟨hwm, hnum, hnw⟩ := chain_aux hd0 hel cn cfgs (chain_le_last cfgs cn hch) _ mid hw hnu hmid
  rw [← Except.ok.inj ho, clean_nw hd0 hel mid hwm cn o hnum hN, hnw, clean_nw hd0 hel _ hw cn out1 hnu h1]

/-- C19 (second clause) for default-strategy removals in well-delimited sources: cleaning with an earlier
    configuration and then with a later one gives, up to whitespace, what cleaning with the later one gives.
    "Later" is `CfgLe`: the clock does not go back and no removal target is withdrawn. -/
theorem compose_default (d0 : Char) (dr : List Char) (e0 : Char) (er : List Char)
    (hd0 : wsChar d0 = false) (hel : ∀ w c, (e0 :: er) = w ++ [c] → wsChar c = false)
    (ps : List Piece) (hok : ∀ p ∈ ps, p.ok d0 e0) (cfg1 cfg2 : Cfg) (hle : CfgLe cfg1 cfg2)
    (out1 out12 out2 : List Char)
    (hnu : NoReadyUnwrap cfg2 (parseSource (renderAll (d0 :: dr) (e0 :: er) ps) (d0 :: dr) (e0 :: er)))
    (h1 : clean (renderAll (d0 :: dr) (e0 :: er) ps) (d0 :: dr) (e0 :: er) cfg1 = .ok out1)
    (h12 : clean out1 (d0 :: dr) (e0 :: er) cfg2 = .ok out12)
    (h2 : clean (renderAll (d0 :: dr) (e0 :: er) ps) (d0 :: dr) (e0 :: er) cfg2 = .ok out2) :
    nwC out12 = nwC out2 :=
  compose_chain d0 dr e0 er hd0 hel ps hok [cfg1] cfg2 ⟨hle, trivial⟩ out12 out2 hnu
    (by simp [cleanChain, h1, h12]) h2

/-! Non-vacuity: a chain of three configurations on the example document of `compose_default`. -/
def exC0 : Cfg := ⟨"tl".toList, "rm".toList, 946684800, 0, "+00:00".toList, []⟩

example : Chain ([exC0, exC1] ++ [exC2]) ∧
    outIs (cleanChain "<".toList ">".toList ([exC0, exC1] ++ [exC2]) (renderAll "<".toList ">".toList exPs2))
      "a\nm\n\nz\n" = true := by
  -- the configurations unfolded first: comparing them folded makes `rfl` decode their string literals
  refine ⟨by unfold exC0 exC1 exC2; exact ⟨⟨rfl, rfl, rfl, Or.inl (by decide), fun t ht => by cases ht⟩,
    ⟨rfl, rfl, rfl, Or.inl (by decide), fun t ht => by cases ht⟩, trivial⟩,
    by rw [outIs_iff]; decide_lit exPs2 exC0 exC1 exC2⟩

end Chiritori.Props.C19
