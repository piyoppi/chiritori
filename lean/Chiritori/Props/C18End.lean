import Chiritori.Lemmas.DecideLit
import Chiritori.Props.C19Idem
import Chiritori.Props.C18
import Chiritori.Lemmas.Respell
import Chiritori.Lemmas.RespellLines
import Chiritori.Props.C15
/-
  C18, end to end for default-strategy removals: the same piece list rendered under two delimiter pairs (pieces that
  fit both pairs, `Piece.fits` - the property's domain; delimiters beginning and ending with a non-whitespace
  character) is cleaned to the same piece list under the respective pair - tags identical, in the same places, texts
  equal up to whitespace (`respell_default`).

  Here only ready elements are kept from carrying `unwrap-block`, and the whitespace between the tags is not compared;
  for documents without `unwrap-block` the two outputs agree byte for byte (Props/C18Exact.lean).

  `list_lines_respelled`: with delimiters that contain no line break and no `unwrap-block` in the document, `list`
  reports the same line ranges, item by item, under either pair.  The argument (`list_lines_sim`) is that of any two
  spellings whose corresponding tokens contain the same number of line breaks.
-/
namespace Chiritori.Props.C18
open Chiritori Chiritori.Spec Chiritori.Props.C19

/-- piece by piece: the same tags, texts with the same non-whitespace -/
def PiecesWs : List Piece → List Piece → Prop
  | [], [] => True
  | .tag b0 rest :: ps, .tag b0' rest' :: qs => b0 = b0' ∧ rest = rest' ∧ PiecesWs ps qs
  | .text v :: ps, .text v' :: qs => nwC v = nwC v' ∧ PiecesWs ps qs
  | [], _ :: _ => False
  | _ :: _, [] => False
  | .tag _ _ :: _, .text _ :: _ => False
  | .text _ :: _, .tag _ _ :: _ => False

theorem piecesWs_of (ds de ds' de' : List Char) {L L' : List Token}
    (h : PW (TokX ds de ds' de' (fun _ _ => True)) L L') :
    ∀ (qs qs' : List Piece), PRel ds de qs L → PRel ds' de' qs' L' → PiecesWs qs qs' := by
  induction h with
  | nil =>
    intro qs qs' h1 h2
    rw [prel_nil h1, prel_nil h2]
    trivial
  | @cons t u L L' htu _ ih =>
    intro qs qs' h1 h2
    obtain ⟨⟨hk, hx⟩, _⟩ := htu
    -- a text piece stands against a text token, a tag piece against a tag token, on either side
    rcases hx with ⟨k1, hv⟩ | ⟨k1, body, _, hv, hv', _, _⟩
    · obtain ⟨v, qs1, rfl, n1, r1⟩ := prel_cons_text k1 h1
      obtain ⟨v', qs1', rfl, n2, r2⟩ := prel_cons_text (hk ▸ k1) h2
      exact ⟨by rw [n1, hv, ← n2], ih qs1 qs1' r1 r2⟩
    · obtain ⟨b0, rest, qs1, rfl, v1, r1⟩ := prel_cons_tag k1 h1
      obtain ⟨b0', rest', qs1', rfl, v2, r2⟩ := prel_cons_tag (hk ▸ k1) h2
      rw [hv] at v1; rw [hv'] at v2
      obtain ⟨e3, e4⟩ := List.cons.inj ((body_cancel v1.symm).trans (body_cancel v2.symm).symm)
      exact ⟨e3, e4, ih qs1 qs1' r1 r2⟩

theorem ok_of_free (d0 : Char) (dr : List Char) (e0 : Char) (er : List Char) (p : Piece)
    (h : p.free ((d0 :: dr) ++ (e0 :: er))) : p.ok d0 e0 :=
  Piece.ok_of_fits d0 e0 (d0 :: dr) (e0 :: er) p (Piece.fits_of_free d0 dr e0 er p h)

/-- C18 for default-strategy removals, up to whitespace in the texts between the tags -/
theorem respell_default (d0 : Char) (dr : List Char) (e0 : Char) (er : List Char)
    (d0' : Char) (dr' : List Char) (e0' : Char) (er' : List Char)
    (hd0 : wsChar d0 = false) (hel : ∀ w c, (e0 :: er) = w ++ [c] → wsChar c = false)
    (hd0' : wsChar d0' = false) (hel' : ∀ w c, (e0' :: er') = w ++ [c] → wsChar c = false)
    (ps : List Piece)
    (hfree : ∀ p ∈ ps, p.fits d0 e0 (d0 :: dr) (e0 :: er) ∧ p.fits d0' e0' (d0' :: dr') (e0' :: er'))
    (cfg : Cfg) (out out' : List Char)
    (hnu : NoReadyUnwrap cfg (parseSource (renderAll (d0 :: dr) (e0 :: er) ps) (d0 :: dr) (e0 :: er)))
    (h : clean (renderAll (d0 :: dr) (e0 :: er) ps) (d0 :: dr) (e0 :: er) cfg = .ok out)
    (h' : clean (renderAll (d0' :: dr') (e0' :: er') ps) (d0' :: dr') (e0' :: er') cfg = .ok out') :
    ∃ qs qs', out = renderAll (d0 :: dr) (e0 :: er) qs ∧ out' = renderAll (d0' :: dr') (e0' :: er') qs' ∧
      PiecesWs qs qs' := by
  have hok : ∀ p ∈ ps, p.ok d0 e0 := fun p hp => Piece.ok_of_fits _ _ _ _ p (hfree p hp).1
  have hok' : ∀ p ∈ ps, p.ok d0' e0' := fun p hp => Piece.ok_of_fits _ _ _ _ p (hfree p hp).2
  have hT := tokX_of_tnorm (d0 :: dr) (e0 :: er) (d0' :: dr') (e0' :: er') ps [] _ _
    (fun p hp => ⟨Piece.strip_of_fits _ _ _ _ p (hfree p hp).1, Piece.strip_of_fits _ _ _ _ p (hfree p hp).2⟩)
    (tokens_tnorm d0 dr e0 er ps hok) (tokens_tnorm d0' dr' e0' er' ps hok')
  have hG : Alike _ Eq (parseSource _ (d0 :: dr) (e0 :: er)) (parseSource _ (d0' :: dr') (e0' :: er')) :=
    parse_sim (spelling_x _ _ _ _ (fun _ _ => True) (by simp) (by simp) (by simp) (by simp)) Alike.congr hT
  have hnu' : NoReadyUnwrap cfg
      (parseSource (renderAll (d0' :: dr') (e0' :: er') ps) (d0' :: dr') (e0' :: er')) :=
    hG.forall_elements (p := fun e => conditionHolds cfg e = true → hasAttr e "unwrap-block" = false)
      (p' := fun e => conditionHolds cfg e = true → hasAttr e "unwrap-block" = false) (fun _ _ he h => he ▸ h) hnu
  obtain ⟨qs, _, ho, hr⟩ := clean_shape d0 dr e0 er hd0 hel ps hok cfg out hnu h
  obtain ⟨qs', _, ho', hr'⟩ := clean_shape d0' dr' e0' er' hd0' hel' ps hok' cfg out' hnu' h'
  exact ⟨qs, qs', ho, ho', piecesWs_of _ _ _ _ (hG.prune fun _ _ he => by rw [he]).flatten qs qs' hr hr'⟩

def NoUnwrapAttr (parts : List Part) : Prop := ∀ e ∈ elementsOf parts, hasAttr e.1 "unwrap-block" = false

theorem elementsOf_append' : ∀ (a b : List Part), elementsOf (a ++ b) = elementsOf a ++ elementsOf b :=
  elementsOf_append

theorem wrapFree_of_noUnwrap (b : Bytes) : ∀ (parts : List Part), NoUnwrapAttr parts → WrapFree b parts := by
  intro parts
  induction parts using parts_induction with
  | nil => intro _; trivial
  | text t rest ih => exact fun h => ⟨trivial, ih h⟩
  | element el st en ch rest ihc ih =>
    intro h
    obtain ⟨hu, hc, hr⟩ := forall_elements_cons.mp h
    refine ⟨⟨?_, ihc hc⟩, ih hr⟩
    intro hh t hext
    simp only [extentOf, hu, Bool.false_eq_true, ite_false] at hext
    split at hext <;> simp at hext

theorem wrapFreePart_of_noUnwrap (b : Bytes) : ∀ (p : Part),
    (∀ e ∈ elementsOfPart p, hasAttr e.1 "unwrap-block" = false) → WrapFreePart b p := by
  intro p h
  exact (wrapFree_of_noUnwrap b [p] (fun e he => h e (by simpa only [elementsOf, List.append_nil] using he))).1

/-- the line range `list` reports for a region (`C15.line_numbers`) -/
def lineRangeOf (b : Bytes) (r : Rng) : Nat × Nat := (1 + nlBefore b r.1, 1 + nlBefore b (r.2 - 1))

theorem lineRange_is_reported (b : Bytes) (start stop : Nat) (h : 0 < stop) :
    getLineRange (lineBreaks b) start stop = .ok (lineRangeOf b (start, stop)) := by
  rw [C15.line_numbers b start stop h, count_lineBreaks, count_lineBreaks]
  rfl

theorem regions_lines_alike {Q : Token → Token → Prop} {E : Element → Element → Prop} {b b' : Bytes}
    {sel sel' : Element → Bool} (hQ : ∀ t u, Q t u → SameLines b b' t u) (hsel : ∀ e e', E e e' → sel' e' = sel e)
    {a a' : List Part} (h : Alike Q E a a')
    (h1 : ∀ e ∈ elementsOf a, hasAttr e.1 "unwrap-block" = false ∧ e.2.1.bstart < e.2.2.bstop)
    (h2 : ∀ e ∈ elementsOf a', hasAttr e.1 "unwrap-block" = false ∧ e.2.1.bstart < e.2.2.bstop) :
    (refRegions sel b a).map (lineRangeOf b) = (refRegions sel' b' a').map (lineRangeOf b') := by
  induction h with
  | nil => rfl
  | text _ _ ih => exact ih h1 h2
  | @element el el' st st' en en' ch ch' ps qs he hst hen _ _ ihc ih =>
    obtain ⟨⟨u1, o1⟩, hc1, hr1⟩ := forall_elements_cons.mp h1
    obtain ⟨⟨u2, o2⟩, hc2, hr2⟩ := forall_elements_cons.mp h2
    simp only [refRegions, refRegionsPart, hsel _ _ he, List.map_append]
    rw [ih hr1 hr2]
    congr 1
    split
    · rw [extentOf_default b el st en u1 o1, extentOf_default b' el' st' en' u2 o2]
      simp only [List.map_cons, List.map_nil, lineRangeOf]
      rw [(hQ _ _ hst).1, (hQ _ _ hen).2.2]
    · exact ihc hc1 hc2

theorem regions_lines (ds de ds' de' : List Char) (b b' : Bytes) (sel : Element → Bool) (a a' : List Part)
    (h : partsX ds de ds' de' (SameLines b b') a a')
    (h1 : ∀ e ∈ elementsOf a, hasAttr e.1 "unwrap-block" = false ∧ e.2.1.bstart < e.2.2.bstop)
    (h2 : ∀ e ∈ elementsOf a', hasAttr e.1 "unwrap-block" = false ∧ e.2.1.bstart < e.2.2.bstop) :
    (refRegions sel b a).map (lineRangeOf b) = (refRegions sel b' a').map (lineRangeOf b') :=
  regions_lines_alike (fun _ _ h => h.2) (fun _ _ he => by rw [he]) ((partsX_iff ds de ds' de' _ a a').mp h) h1 h2

theorem regionsPart_lines (ds de ds' de' : List Char) (b b' : Bytes) (sel : Element → Bool) :
    ∀ (p q : Part), partX ds de ds' de' (SameLines b b') p q →
    (∀ e ∈ elementsOfPart p, hasAttr e.1 "unwrap-block" = false ∧ e.2.1.bstart < e.2.2.bstop) →
    (∀ e ∈ elementsOfPart q, hasAttr e.1 "unwrap-block" = false ∧ e.2.1.bstart < e.2.2.bstop) →
    (refRegionsPart sel b p).map (lineRangeOf b) = (refRegionsPart sel b' q).map (lineRangeOf b') := by
  intro p q h h1 h2
  have := regions_lines ds de ds' de' b b' sel [p] [q] ⟨h, trivial⟩
    (fun e he => h1 e (by simpa only [elementsOf, List.append_nil] using he))
    (fun e he => h2 e (by simpa only [elementsOf, List.append_nil] using he))
  simpa only [refRegions, List.append_nil] using this

theorem listed_lines (src ds de : List Char) (cfg : Cfg) (hde : de ≠ []) (hnu : NoUnwrapAttr (parseSource src ds de)) :
    (listMarkers src ds de cfg).map (fun x => lineRangeOf (bytesOf src) (x.1.start, x.1.stop)) =
      (refRegions (conditionHolds cfg) (bytesOf src) (parseSource src ds de)).map (lineRangeOf (bytesOf src)) := by
  rw [← C15.regions_exact src ds de cfg hde (wrapFree_of_noUnwrap _ _ hnu), List.map_map]
  rfl

/-- two spellings of a document whose corresponding tokens contain as many line breaks, under configurations that
    select corresponding elements, are listed with the same line ranges, item by item: the tokens start and end on the
    same lines (`chain_sameLines`), so do the regions of the two forests, which are alike -/
theorem list_lines_sim {ds de ds' de' : List Char} (hde : de ≠ []) (hde' : de' ≠ []) {Q : Token → Token → Prop}
    {E : Element → Element → Prop} (hs : Spelling ds de ds' de' Q E) (hnl : ∀ t u, Q t u → SameNL t u)
    {cfg cfg' : Cfg} (hsel : ∀ e e', E e e' → conditionHolds cfg' e' = conditionHolds cfg e)
    (hattr : ∀ e e', E e e' → hasAttr e "unwrap-block" = false → hasAttr e' "unwrap-block" = false)
    (src src' : List Char) (hT : PW Q (tokenize src ds de) (tokenize src' ds' de'))
    (hnu : NoUnwrapAttr (parseSource src ds de)) :
    (listMarkers src ds de cfg).map (fun x => lineRangeOf (bytesOf src) (x.1.start, x.1.stop)) =
    (listMarkers src' ds' de' cfg').map (fun x => lineRangeOf (bytesOf src') (x.1.start, x.1.stop)) := by
  obtain ⟨tk, _⟩ := tokenize_ok src ds de hde
  obtain ⟨tk', _⟩ := tokenize_ok src' ds' de' hde'
  have hpw := chain_sameLines (hT.mono hnl) 0 0 0 0 [] [] [] [] tk.chain tk'.chain rfl rfl rfl
  simp only [List.nil_append, List.append_nil, tk.flatEq, tk'.flatEq] at hpw
  have hG : Alike (fun t u => Q t u ∧ SameLines (bytesOf src) (bytesOf src') t u) E (parseSource src ds de)
      (parseSource src' ds' de') :=
    parse_sim (hs.mono _ _ _ _ _ _ (fun _ _ h => h.1)) Alike.congr (hT.and hpw)
  have hnu' : NoUnwrapAttr (parseSource src' ds' de') := hG.forall_elements hattr hnu
  rw [listed_lines src ds de cfg hde hnu, listed_lines src' ds' de' cfg' hde' hnu']
  exact regions_lines_alike (fun _ _ h => h.2) hsel hG
    (fun e he => ⟨hnu e he, elements_ordered _ 0 _ (parseSource_span src ds de hde) e he⟩)
    (fun e he => ⟨hnu' e he, elements_ordered _ 0 _ (parseSource_span src' ds' de' hde') e he⟩)

/-- C18, listing, in its general form: whenever the tokens of the two renderings are the normalised pieces (the
    conclusion of C08) and the tag bodies can be stripped of both delimiter pairs, the two listings have the same line
    ranges, item by item (delimiters without line breaks, no element carrying `unwrap-block`) -/
theorem list_lines_respelled_tn (d0 : Char) (dr : List Char) (e0 : Char) (er : List Char)
    (d0' : Char) (dr' : List Char) (e0' : Char) (er' : List Char)
    (hnl : ∀ c ∈ (d0 :: dr) ++ (e0 :: er), c ≠ '\n') (hnl' : ∀ c ∈ (d0' :: dr') ++ (e0' :: er'), c ≠ '\n')
    (ps : List Piece)
    (hstrip : ∀ p ∈ ps, p.strip (d0 :: dr) (e0 :: er) ∧ p.strip (d0' :: dr') (e0' :: er'))
    (htn : (tokenize (renderAll (d0 :: dr) (e0 :: er) ps) (d0 :: dr) (e0 :: er)).map (fun t => (t.kind, t.value))
      = tnorm (d0 :: dr) (e0 :: er) [] ps [])
    (htn' : (tokenize (renderAll (d0' :: dr') (e0' :: er') ps) (d0' :: dr') (e0' :: er')).map (fun t => (t.kind, t.value))
      = tnorm (d0' :: dr') (e0' :: er') [] ps [])
    (cfg : Cfg)
    (hnu : NoUnwrapAttr (parseSource (renderAll (d0 :: dr) (e0 :: er) ps) (d0 :: dr) (e0 :: er))) :
    (listMarkers (renderAll (d0 :: dr) (e0 :: er) ps) (d0 :: dr) (e0 :: er) cfg).map
        (fun x => lineRangeOf (bytesOf (renderAll (d0 :: dr) (e0 :: er) ps)) (x.1.start, x.1.stop)) =
    (listMarkers (renderAll (d0' :: dr') (e0' :: er') ps) (d0' :: dr') (e0' :: er') cfg).map
        (fun x => lineRangeOf (bytesOf (renderAll (d0' :: dr') (e0' :: er') ps)) (x.1.start, x.1.stop)) :=
  list_lines_sim (by simp) (by simp)
    (spelling_x _ _ _ _ (fun _ _ => True) (by simp) (by simp) (by simp) (by simp))
    (fun t u h => sameNL_x _ _ _ _ hnl hnl' (by simp) (by simp) t u h.1) (fun _ _ he => by rw [he]) (fun _ _ he h => he ▸ h)
    _ _ (tokX_of_tnorm _ _ _ _ ps [] _ _ hstrip htn htn') hnu

/-- C18, listing: the same piece list under two delimiter pairs that contain no line break (no element carrying
    `unwrap-block`) is listed with the same line ranges, item by item -/
theorem list_lines_respelled (d0 : Char) (dr : List Char) (e0 : Char) (er : List Char)
    (d0' : Char) (dr' : List Char) (e0' : Char) (er' : List Char)
    (hnl : ∀ c ∈ (d0 :: dr) ++ (e0 :: er), c ≠ '\n') (hnl' : ∀ c ∈ (d0' :: dr') ++ (e0' :: er'), c ≠ '\n')
    (ps : List Piece)
    (hfree : ∀ p ∈ ps, p.fits d0 e0 (d0 :: dr) (e0 :: er) ∧ p.fits d0' e0' (d0' :: dr') (e0' :: er'))
    (cfg : Cfg)
    (hnu : NoUnwrapAttr (parseSource (renderAll (d0 :: dr) (e0 :: er) ps) (d0 :: dr) (e0 :: er))) :
    (listMarkers (renderAll (d0 :: dr) (e0 :: er) ps) (d0 :: dr) (e0 :: er) cfg).map
        (fun x => lineRangeOf (bytesOf (renderAll (d0 :: dr) (e0 :: er) ps)) (x.1.start, x.1.stop)) =
    (listMarkers (renderAll (d0' :: dr') (e0' :: er') ps) (d0' :: dr') (e0' :: er') cfg).map
        (fun x => lineRangeOf (bytesOf (renderAll (d0' :: dr') (e0' :: er') ps)) (x.1.start, x.1.stop)) :=
  list_lines_respelled_tn d0 dr e0 er d0' dr' e0' er' hnl hnl' ps
    (fun p hp => ⟨Piece.strip_of_fits _ _ _ _ p (hfree p hp).1, Piece.strip_of_fits _ _ _ _ p (hfree p hp).2⟩)
    (tokens_tnorm d0 dr e0 er ps (fun p hp => Piece.ok_of_fits _ _ _ _ p (hfree p hp).1))
    (tokens_tnorm d0' dr' e0' er' ps (fun p hp => Piece.ok_of_fits _ _ _ _ p (hfree p hp).2))
    cfg hnu

/-! Non-vacuity: the document of `compose_default`, once with `<` `>` and once with `[%` `%]`. -/
def frB (cs : List Char) : Piece → Bool
  | .text s => s.all fun c => !cs.contains c
  | .tag b0 rest => (b0 :: rest).all fun c => !cs.contains c

theorem frB_sound (cs : List Char) (p : Piece) (h : frB cs p = true) : p.free cs := by
  cases p <;>
  · intro c hc hm
    simp only [frB, List.all_eq_true] at h
    have := h c hc
    simp [hm] at this

theorem exPs2_fits : ∀ p ∈ exPs2, p.fits '<' '>' "<".toList ">".toList ∧ p.fits '[' '%' "[%".toList "%]".toList := by
  have h : exPs2.all (frB ("<".toList ++ ">".toList)) = true ∧ exPs2.all (frB ("[%".toList ++ "%]".toList)) = true := by
    decide_lit exPs2
  intro p hp
  exact ⟨Piece.fits_of_free '<' [] '>' [] p (frB_sound _ p (List.all_eq_true.mp h.1 p hp)),
    Piece.fits_of_free '[' ['%'] '%' [']'] p (frB_sound _ p (List.all_eq_true.mp h.2 p hp))⟩

theorem noUnwrapAttr_of_all (parts : List Part)
    (h : (elementsOf parts).all (fun e => !hasAttr e.1 "unwrap-block") = true) : NoUnwrapAttr parts := by
  intro e he
  have := List.all_eq_true.mp h e he
  simpa using this

theorem exPs2_noUnwrapAttr :
    NoUnwrapAttr (parseSource (renderAll "<".toList ">".toList exPs2) "<".toList ">".toList) := by
  have h : (elementsOf (parseSource (renderAll "<".toList ">".toList exPs2) "<".toList ">".toList)).all
      (fun e => !hasAttr e.1 "unwrap-block") = true := by decide_lit exPs2
  revert h
  exact noUnwrapAttr_of_all _

/-- the example document under `[%` `%]`: three regions are listed, on lines 2-4, 6 and 7 -/
theorem exPs2_percent :
    outIs (clean (renderAll "[%".toList "%]".toList exPs2) "[%".toList "%]".toList exC2) "a\nm\n\nz\n" = true ∧
    (listMarkers (renderAll "[%".toList "%]".toList exPs2) "[%".toList "%]".toList exC2).map
      (fun x => lineRangeOf (bytesOf (renderAll "[%".toList "%]".toList exPs2)) (x.1.start, x.1.stop)) = [(2, 4), (6, 6), (7, 7)] := by
  rw [outIs_iff]
  decide_lit exPs2 exC2

example : (∀ p ∈ exPs2, p.fits '<' '>' "<".toList ">".toList ∧ p.fits '[' '%' "[%".toList "%]".toList) ∧
    outIs (clean (renderAll "<".toList ">".toList exPs2) "<".toList ">".toList exC2) "a\nm\n\nz\n" = true ∧
    outIs (clean (renderAll "[%".toList "%]".toList exPs2) "[%".toList "%]".toList exC2) "a\nm\n\nz\n" = true :=
  ⟨exPs2_fits, exPs2_cleaned, exPs2_percent.1⟩

/-! Non-vacuity of `list_lines_respelled`. -/
example : NoUnwrapAttr (parseSource (renderAll "<".toList ">".toList exPs2) "<".toList ">".toList) ∧
    (listMarkers (renderAll "[%".toList "%]".toList exPs2) "[%".toList "%]".toList exC2).map
      (fun x => lineRangeOf (bytesOf (renderAll "[%".toList "%]".toList exPs2)) (x.1.start, x.1.stop)) = [(2, 4), (6, 6), (7, 7)] :=
  ⟨exPs2_noUnwrapAttr, exPs2_percent.2⟩

end Chiritori.Props.C18
