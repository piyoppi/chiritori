import Chiritori.Lemmas.DecideLit
import Chiritori.Props.C12
import Chiritori.Lemmas.Koff
import Chiritori.Lemmas.C14Full
import Chiritori.Lemmas.Finders
import Chiritori.Lemmas.Remove
/-
  C12: the two numbers the block indent remover measures in the text after removal are what the property names -
  the column of the opening tag in the source, and the indentation of the first inner line.
-/
namespace Chiritori.Props.C12
open Chiritori Chiritori.Spec

/-- a kept source byte stands, in the text after removal, at its offset -/
theorem kept_at (ext : List Rng) (b : Bytes) (i : Nat) (x : ABy) (hb : b[i]? = some x) (hk : inAny ext i = false) :
    (minusRanges b ext)[koffTo ext b i]? = some x :=
  (keptOf_getElem? ext b _ x).mpr ⟨i, hb, hk, rfl⟩

theorem koffTo_len (X : List Rng) (b : Bytes) : koffTo X b b.length = (minusRanges b X).length := by
  rw [minusRanges_eq_keptOf]
  unfold keptOf koffTo koff
  rw [List.length_map, List.take_of_length_le (by simp)]

/-- a line of the source of which nothing is removed between the line break in front of it (at `u - 1`) and `a`: in the
    text after removal that line break stands at `koffTo (u - 1)`, and behind it what stood between `u` and `a` -/
theorem kept_line (X : List Rng) (S : Bytes) (a u : Nat) (hu : 0 < u) (hua : u ≤ a) (ha : a ≤ S.length)
    (hnl : S[u - 1]? = some NL) (hkept : ∀ i, u - 1 ≤ i → i < a → inAny X i = false) :
    koffTo X S a = koffTo X S (u - 1) + 1 + (a - u) ∧ (minusRanges S X)[koffTo X S (u - 1)]? = some NL ∧
    ∀ P : ABy → Prop, (∀ i, u ≤ i → i < a → ∃ x, S[i]? = some x ∧ P x) →
      ∀ i, koffTo X S (u - 1) < i → i < koffTo X S a → ∃ x, (minusRanges S X)[i]? = some x ∧ P x := by
  obtain ⟨n, rfl⟩ : ∃ n, u = n + 1 := ⟨u - 1, by omega⟩
  rw [Nat.add_sub_cancel] at hnl hkept ⊢
  have hoff : ∀ k, n + k ≤ a → koffTo X S (n + k) = koffTo X S n + k := fun k hk =>
    koffTo_keep X S n k (by omega) (fun i h1 h2 => hkept i h1 (by omega))
  have hK : ∀ k, n + k < a → (minusRanges S X)[koffTo X S n + k]? = S[n + k]? := fun k hk => by
    have hlt : n + k < S.length := by omega
    rw [← hoff k (by omega), List.getElem?_eq_getElem hlt]
    exact kept_at X S (n + k) _ (List.getElem?_eq_getElem hlt) (hkept _ (by omega) hk)
  have hA := hoff (a - n) (by omega)
  rw [show n + (a - n) = a by omega] at hA
  refine ⟨by omega, by simpa [hnl] using hK 0 (by omega), fun P hP i h1 h2 => ?_⟩
  have := hK (i - koffTo X S n) (by omega)
  rw [show koffTo X S n + (i - koffTo X S n) = i by omega] at this
  rw [this]
  exact hP _ (by omega) (by omega)

/-- the tag column, measured at the seam in the text after removal, is the tag's column in the source: `a` is where
    the opening tag starts, `u` the start of its line; the line break before `u` and the blank bytes between `u` and `a`
    are kept, and that line break is not the first byte of the text after removal (the known finding D11 is that
    excluded case) -/
theorem tagColumn_source (X : List Rng) (S : Bytes) (a u : Nat) (hu : 0 < u) (hua : u ≤ a) (ha : a ≤ S.length)
    (hnl : S[u - 1]? = some NL) (hblank : ∀ i, u ≤ i → i < a → ∃ x, S[i]? = some x ∧ isSkipByte x)
    (hkept : ∀ i, u - 1 ≤ i → i < a → inAny X i = false) (hpos : 0 < koffTo X S (u - 1)) :
    tagColumn (minusRanges S X) (koffTo X S a) = a - u := by
  obtain ⟨hA, hN, hB⟩ := kept_line X S a u hu hua ha hnl hkept
  unfold tagColumn
  rw [findPrevLB_intro _ _ _ true hpos (by omega) (by rw [← koffTo_len]; exact koffTo_mono X S a S.length ha)
    (hB isSkipByte hblank) hN]
  simp only
  omega

/-- the other number: the indentation of the first inner line `cur` - the distance from its start to its first byte that
    is neither a space nor a tab (again unless the line break before it is byte 0 of the text after removal) -/
theorem getIndentLen_firstLine (b : Bytes) (cur e : Nat) (h1 : 1 < cur) (hle : cur ≤ b.length)
    (hnl : b[cur - 1]? = some NL) (he : findNextChar b cur = some e) : getIndentLen b cur = e - cur := by
  unfold getIndentLen
  rw [findPrevLB_intro b cur (cur - 1) false (by omega) (by omega) hle (fun i h2 h3 => by omega) hnl]
  simp only
  rw [show cur - 1 + 1 = cur by omega, he]
  simp only
  omega

/-- what a line keeps: with `w` leading blanks, tag column `t` and first-line indentation `f`, deleting
    `lineRange ls (ls + w) t (f - t)` leaves `w` blanks if `w ≤ t`, else `max (w - (f - t)) t` -/
theorem surviving_indent (ls w t f : Nat) :
    w - ((lineRange ls (ls + w) t (f - t)).2 - (lineRange ls (ls + w) t (f - t)).1) =
      if w ≤ t then w else max (w - (f - t)) t := by
  have := (lineRange_arith ls (ls + w) t (f - t) (by omega)).2
  rw [this, show ls + w - ls = w by omega]
  exact dedent_formula w t (f - t)

/-- the seam positions handed to the formatter are the offsets, in the text after removal, of the places where the
    markers start in the source - for the head seam of an unwrapped block, the start of its opening tag -/
theorem positions_are_offsets (src ds de : List Char) (cfg : Cfg) (hde : de ≠ []) :
    positions (buildRemoveMarker cfg (bytesOf src) (parseSource src ds de)) 0 =
      (buildRemoveMarker cfg (bytesOf src) (parseSource src ds de)).map
        fun m => koffTo (extentsOfSource src ds de cfg) (bytesOf src) m.start := by
  obtain ⟨hs, hcov⟩ := buildRemoveMarker_spec src ds de cfg hde
  exact positions_koffTo _ (bytesOf src) _ 0 0 (blen src) hs (by simp)
    (fun i _ => (hcov i).symm) (by simp [koffTo_zero])

example : tagColumn (bytesOf "a\n  \n      x".toList) 4 = 2 := by decide_lit
example : getIndentLen (bytesOf "a\n  \n      x".toList) 5 = 6 := by decide_lit

end Chiritori.Props.C12
