import Chiritori.Lemmas.DecideLit
import Chiritori.Props.C04
/-
  C11 — Unwrap-block removes the two tag lines and the two wrapper lines, nothing else.

  When an unwrap-block is unwrapped, its opening part runs from the first character of the opening tag to the second
  line break at or after the end of the tag, and its closing part from just behind the second line break before the
  closing tag to the last character of that tag.  That happens exactly when at least three line breaks lie between the
  two tags; with fewer the element has no extent at all.  With C02/C03 the two parts disappear completely and nothing
  outside the ready extents disappears except whitespace, so every inner line survives; with C04 an element that cannot
  be unwrapped is left untouched, tags included, when nothing else is ready.
  The statements are about arbitrary sources; block documents (every tag alone on its line) are the special case in
  which the two parts are exactly four lines.
-/
namespace Chiritori.Props.C11
open Chiritori Chiritori.Spec

theorem parts_lines (b : Bytes) (st en : Token) (h t : Rng) (h0 : 0 < st.bstop) (hlen : en.bstart ≤ b.length)
    (hu : unwrapParts b st en = some (h, t)) :
    ∃ p1 q1,
      -- p1: first line break at or after the end of the opening tag; h.2: the next one
      st.bstop ≤ p1 ∧ b[p1]? = some NL ∧ (∀ i, st.bstop ≤ i → i < p1 → b[i]? ≠ some NL) ∧
      p1 < h.2 ∧ b[h.2]? = some NL ∧ (∀ i, p1 < i → i < h.2 → b[i]? ≠ some NL) ∧
      -- q1: last line break before the closing tag; t.1 - 1: the one before it
      q1 < en.bstart ∧ b[q1]? = some NL ∧ (∀ i, q1 < i → i < en.bstart → b[i]? ≠ some NL) ∧
      t.1 ≤ q1 ∧ b[t.1 - 1]? = some NL ∧ (∀ i, t.1 ≤ i → i < q1 → b[i]? ≠ some NL) ∧
      h.1 = st.bstart ∧ t.2 = en.bstop ∧ h.2 < t.1 := by
  obtain ⟨p1, p2, q1, q2, hp1, hp2, hq1, hq2, hv, rfl, rfl⟩ := (unwrapParts_finders b st en h t h0 hlen).mp hu
  obtain ⟨_, a2, a4, a5⟩ := (findNextLB_eq_some_iff b st.bstop p1 false).mp hp1
  obtain ⟨_, c2, c4, c5⟩ := (findNextLB_eq_some_iff b (p1 + 1) p2 false).mp hp2
  obtain ⟨_, d2, _, d4, d5⟩ := (findPrevLB_eq_some_iff b en.bstart q1 false).mp hq1
  obtain ⟨_, f2, _, f4, f5⟩ := (findPrevLB_eq_some_iff b q1 q2 false).mp hq2
  exact ⟨p1, q1, a2, a4, fun i x y => (a5 i x y).1, c2, c4, fun i x y => (c5 i x y).1, d2, d4, fun i x y => (d5 i x y).1,
    f2, f4, fun i x y => (f5 i x y).1, rfl, rfl, Nat.lt_succ_of_le hv⟩

theorem unwrappable_iff (b : Bytes) (st en : Token) (h0 : 0 < st.bstop) (hlen : en.bstart ≤ b.length) :
    (unwrapParts b st en).isSome = true ↔
      ∃ x y z, st.bstop ≤ x ∧ x < y ∧ y < z ∧ z < en.bstart ∧
        b[x]? = some NL ∧ b[y]? = some NL ∧ b[z]? = some NL := by
  constructor
  · intro hs
    obtain ⟨⟨h, t⟩, hu⟩ := Option.isSome_iff_exists.mp hs
    obtain ⟨p1, q1, a1, a2, _, a4, a5, _, c1, c2, _, c4, c5, _, _, _, hlt⟩ := parts_lines b st en h t h0 hlen hu
    exact ⟨p1, h.2, q1, a1, a4, Nat.lt_of_lt_of_le hlt c4, c1, a2, a5, c2⟩
  · rintro ⟨x, y, z, hx, hxy, hyz, hz, nx, ny, nz⟩
    -- each of the four finder calls meets one of the three line breaks, at the latest
    obtain ⟨p1, hp1, l1⟩ := findNextLB_false_le b st.bstop x h0 hx nx
    obtain ⟨p2, hp2, l2⟩ := findNextLB_false_le b (p1 + 1) y (Nat.succ_pos _) (Nat.lt_of_le_of_lt l1 hxy) ny
    obtain ⟨q1, hq1, l3⟩ := findPrevLB_false_ge b en.bstart z hlen (Nat.zero_lt_of_lt hyz) hz nz
    have hq := ((findPrevLB_eq_some_iff b en.bstart q1 false).mp hq1).2.1
    obtain ⟨q2, hq2, l4⟩ := findPrevLB_false_ge b q1 y (Nat.le_trans (Nat.le_of_lt hq) hlen)
      (Nat.zero_lt_of_lt hxy) (Nat.lt_of_lt_of_le hyz l3) ny
    rw [(unwrapParts_finders b st en _ _ h0 hlen).mpr
      ⟨p1, p2, q1, q2, hp1, hp2, hq1, hq2, Nat.le_trans l2 l4, rfl, rfl⟩]
    rfl

theorem too_short_no_extent (b : Bytes) (el : Element) (st en : Token) (h0 : 0 < st.bstop) (hlen : en.bstart ≤ b.length)
    (hu : hasAttr el "unwrap-block" = true)
    (hshort : ¬ ∃ x y z, st.bstop ≤ x ∧ x < y ∧ y < z ∧ z < en.bstart ∧
        b[x]? = some NL ∧ b[y]? = some NL ∧ b[z]? = some NL) : extentOf b el st en = [] := by
  unfold extentOf
  rw [if_pos hu]
  cases hp : unwrapParts b st en with
  | none => rfl
  | some ht =>
    exfalso
    apply hshort
    exact (unwrappable_iff b st en h0 hlen).mp (by rw [hp]; rfl)

theorem extent_two_parts (b : Bytes) (el : Element) (st en : Token) (h t : Rng)
    (hu : hasAttr el "unwrap-block" = true) (hp : unwrapParts b st en = some (h, t)) :
    extentOf b el st en = [h, t] := by
  unfold extentOf
  rw [if_pos hu, hp]

/-! Kernel-evaluated instances: k = 2 is unwrapped (the case of D6), k = 1 is not. -/
def cfg0 : Cfg := ⟨"tl".toList, "rm".toList, 1577836800, 0, "+00:00".toList, []⟩
def cleanOr (src : String) : List Char :=
  match clean src.toList "<".toList ">".toList cfg0 with
  | .ok o => o
  | .error _ => "PANIC".toList
/-- `cleanOr` on a literal, by a run of `clean` on the list of its characters (the kernel decodes a string literal slowly) -/
theorem cleanOr_ofList (l out : List Char) (h : (clean l "<".toList ">".toList cfg0).toOption = some out) :
    cleanOr (String.ofList l) = out := by
  unfold cleanOr
  rw [String.toList_ofList]
  cases hc : clean l "<".toList ">".toList cfg0 with
  | error e => rw [hc] at h; cases h
  | ok o => rw [hc] at h; cases h; rfl

example : cleanOr "a\n<tl to='2000-01-01 00:00:00' unwrap-block>\n{\n}\n</tl>\nb\n" = "a\n\nb\n".toList :=
  cleanOr_ofList _ _ (by decide_lit cfg0)
example : cleanOr "a\n<tl to='2000-01-01 00:00:00' unwrap-block>\n{\n</tl>\nb\n"
    = "a\n<tl to='2000-01-01 00:00:00' unwrap-block>\n{\n</tl>\nb\n".toList :=
  cleanOr_ofList _ _ (by decide_lit cfg0)
example : cleanOr "a\n<tl to='2000-01-01 00:00:00' unwrap-block>\nif (x) {\n  keep\n}\n</tl>\nb\n" = "a\nkeep\nb\n".toList :=
  cleanOr_ofList _ _ (by decide_lit cfg0)

end Chiritori.Props.C11
