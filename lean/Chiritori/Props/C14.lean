import Chiritori.Lemmas.DecideLit
import Chiritori.Lemmas.FormatAnchored
import Chiritori.Lemmas.C14Default
import Chiritori.Lemmas.C14Full
import Chiritori.Props.C02
/-
  C14 — Whitespace changes are confined to the borders of removals.

  Full statement: `Statement` (the trimmed maximal stretches of the source outside the ready extents, cut line by
  line inside unwrapped bodies, occur verbatim and in order in the output: `Spec.c14Holds`), proved as `c14` for EVERY
  source (junk and malformed sources included).
  For every text and every list of removed positions, tidying deletes nothing but spaces, tabs and line breaks, and
  every range `format` computes (`ranges_local`, `merged_subset` in Lemmas/FormatAnchored.lean) is either a *seam
  range* - one contiguous run of whitespace that contains the removed position it belongs to, so it lies in the
  trailing whitespace of the stretch before the seam and the leading whitespace of the stretch behind it - or a *block
  range*: part of the run of blanks at the beginning of a line behind the head seam of an unwrap pair (its exact shape
  is given in C12); what is finally deleted is covered by those ranges.
  How `c14` goes: the text after removal is cut into pieces (`piecesAux`: `stretchesAux` with the line breaks inside
  unwrapped bodies kept as pieces of their own) that trim to the stretches.  Every deleted index lies in a run of
  whitespace that touches the end of a piece (`format_anchored`): a seam range touches its seam, which is the end of a
  piece; a block range lies in the blanks at the beginning of a line between the two seams of a marker pair, and the
  line break in front of it comes from the body of the unwrapped element the pair came from (`pieces_end_between`).
  Such a run cannot reach into a trimmed core, whose first and last bytes are not whitespace
  (`coresKept_of_anchored`), so the cores survive in order and the greedy matcher of the specification finds them
  (`occurInOrder_of_embeds`).
-/
namespace Chiritori.Props.C14
open Chiritori Chiritori.Spec

def Statement : Prop :=
  ∀ (src ds de : List Char) (cfg : Cfg) (out : List Char), ds ≠ [] → de ≠ [] →
    clean src ds de cfg = .ok out → c14Holds src ds de cfg out = true

theorem only_whitespace (s : List Char) (pos : List (Nat × Option Nat)) (out : Bytes)
    (h : format (bytesOf s) pos = .ok out) : WsSub (bytesOf s) out := (format_wsSub s pos out h).1

theorem seam_range_run (s : List Char) (pos : Nat) (r : Nat × Nat) (g : GoodRange s pos r) :
    r.1 ≤ pos ∧ pos ≤ r.2 ∧ ∀ i, r.1 ≤ i → i < r.2 → ∃ x, (bytesOf s)[i]? = some x ∧ isWsByte x :=
  ⟨g.le1, g.le2, g.ws⟩

theorem block_range_line (b : Bytes) (startPos endPos : Nat) (r : Nat × Nat) (h : r ∈ fmtBlockIndent b startPos endPos) :
    ∃ ls ip, findNextChar b ls = some ip ∧ ls ≤ r.1 ∧ r.2 ≤ ip :=
  let ⟨ls, ip, _, _, _, h4, h5, h6⟩ := fmtBlockIndent_anchor b startPos endPos r h
  ⟨ls, ip, h4, h5, h6⟩

/-- C14, full statement: for every source, any non-empty delimiters and any configuration, the trimmed stretches
    of the source outside the ready extents (cut line by line inside unwrapped bodies) occur verbatim and in order
    in the output of `clean` -/
theorem c14 : Statement := by
  intro src ds de cfg out _ hde h
  obtain ⟨s1, hs1, hf⟩ := clean_ok src ds de cfg out hde h
  obtain ⟨hs, hcov⟩ := buildRemoveMarker_spec src ds de cfg hde
  have hpb := markers_pairBody src ds de cfg hde
  generalize buildRemoveMarker cfg (bytesOf src) (parseSource src ds de) = M at hf hs hcov hpb
  generalize hbod : unwrappedBodies cfg (bytesOf src) (parseSource src ds de) = bodies at hpb
  generalize hext : extentsOfSource src ds de cfg = ext at hs1 hcov
  -- the text after removal is the concatenation of the pieces
  have hK : bytesOf s1 = (piecesAux ext bodies (bytesOf src).zipIdx []).flatten := by
    rw [hs1, minusRanges_eq_keptOf, piecesAux_flatten, List.nil_append]
  -- `format` is handed the offsets of the markers: each is the end of a piece, and so is the start of every line
  -- between the offsets of the two markers of a pair
  rw [removedPos_koffTo ext (bytesOf src) M (blen src) hs (by simp) (fun i => (hcov i).symm)] at hf
  obtain ⟨F, hout, hanch⟩ := format_anchored s1 _ _ hf (segEnds (piecesAux ext bodies (bytesOf src).zipIdx []) 0)
    (by
      intro p hp
      obtain ⟨m, hm, rfl⟩ := List.mem_map.mp hp
      obtain ⟨_, g2, g3⟩ := MSorted_bounds M 0 (blen src) hs m hm
      exact Or.inr (pieces_end_removed ext bodies (bytesOf src) m.start (by rw [bytesOf_length]; omega)
        ((hcov _).mp ⟨m, hm, Nat.le_refl _, g2⟩)))
    (by
      intro p hp j q ls hpj hqj h1 h2 hnl
      obtain ⟨i, hi⟩ := List.mem_iff_getElem?.mp hp
      simp only [List.getElem?_map, Option.map_eq_some_iff] at hi hqj
      obtain ⟨mi, hmi, rfl⟩ := hi
      obtain ⟨mj, hmj, rfl⟩ := hqj
      obtain ⟨l, rfl⟩ := Nat.exists_eq_add_one_of_ne_zero (Nat.ne_zero_of_lt h1)
      rw [hs1, minusRanges_eq_keptOf, Nat.add_sub_cancel] at hnl
      exact pieces_end_between ext bodies (bytesOf src) M (blen src) hs (fun i => (hcov i).mp) hpb i j mi mj hmi hmj hpj
        l (Nat.le_of_lt_succ h1) (Nat.lt_of_succ_lt h2) hnl)
  -- so the trimmed pieces, which are the stretches, survive
  rw [hK] at hout hanch
  unfold c14Holds
  dsimp only
  rw [hbod, show readyExtents cfg (bytesOf src) (parseSource src ds de) = ext from hext, hout,
    show stretches (bytesOf src) ext bodies = ((piecesAux ext bodies (bytesOf src).zipIdx []).map trimWs).filter ne from
      (piecesAux_stretches ext bodies _ []).symm]
  exact occur_of_anchored F _ hanch

theorem c14_default_partial (src ds de : List Char) (cfg : Cfg) (out : List Char) (_ : ds ≠ []) (hde : de ≠ [])
    (hnu : NoReadyUnwrap cfg (parseSource src ds de))
    (h : clean src ds de cfg = .ok out) : c14Holds src ds de cfg out = true :=
  c14 src ds de cfg out ‹_› hde h

/-! Non-vacuity: a junk source with stray tags and two ready default elements, one of them inline. -/
def exCfg : Cfg := ⟨"tl".toList, "rm".toList, 1577836800, 0, "+00:00".toList, ["a".toList]⟩
def exSrc : List Char :=
  "a </rm>\n  <rm name='a'>\n  x\n  </rm>\n\n b <tl to='2000-01-01 00:00:00'> y </tl> c\n<rm name='b' unwrap-block>\n".toList
theorem ex_checks : (elementsOf (parseSource exSrc "<".toList ">".toList)).all
      (fun e => !conditionHolds exCfg e.1 || !hasAttr e.1 "unwrap-block") = true ∧
    (stretches (bytesOf exSrc) (extentsOfSource exSrc "<".toList ">".toList exCfg) []).length = 3 := by
  decide_lit exSrc exCfg
example : (elementsOf (parseSource exSrc "<".toList ">".toList)).all
    (fun e => !conditionHolds exCfg e.1 || !hasAttr e.1 "unwrap-block") = true := ex_checks.1
example : (stretches (bytesOf exSrc) (extentsOfSource exSrc "<".toList ">".toList exCfg) []).length = 3 :=
  ex_checks.2

end Chiritori.Props.C14
