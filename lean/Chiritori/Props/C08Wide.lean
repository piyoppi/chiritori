import Chiritori.Lemmas.DecideLit
import Chiritori.Props.C08Tail
/-
  C08 on a wider region than `Piece.ok` (Props/C08Partial.lean).

  `c08_wide`: for any non-empty delimiters, on every source that is a sequence of pieces which *fit* the delimiters
  (`wideOK`, a Boolean function of the pieces and the delimiters), the tokenizer's kinds and values are exactly those
  of the textbook leftmost-shortest scan.  A stretch of text fits when
    (a) the automaton run over it never completes the start delimiter and has no partial match pending at its end, and
    (b) the start delimiter does not occur in the text followed by the delimiter minus its last character;
  a tag body fits in the same way with respect to the end delimiter.  Text may therefore contain the characters of
  the delimiters - the first one included: `<div>` and `<!DOCTYPE html>` in HTML with `<!-- <` / `> -->`, `a / b` and
  `// comment` with `/* <` / `> */`.  What is excluded is the D4 situation (a failed partial match that overlaps a real
  occurrence, or is still pending where a real delimiter begins: `wideOK` is false on the D4 witnesses) - and, beyond it, a
  partial match still pending at the very end of the document (`x <` as the last text), which is harmless, outside this
  hypothesis and inside that of `c08_wide_tail`; no converse is claimed.

  `wideOK_of_ok`: the region `Piece.ok` (no first delimiter character at all) is a special case.
-/
namespace Chiritori.Props.C08
open Chiritori Chiritori.Spec

theorem c08_wide (d0 : Char) (dr : List Char) (e0 : Char) (er : List Char) (ps : List Piece)
    (hw : wideOK (d0 :: dr) (e0 :: er) ps [] = true) :
    c08Holds (renderAll (d0 :: dr) (e0 :: er) ps) (d0 :: dr) (e0 :: er)
      (tokenize (renderAll (d0 :: dr) (e0 :: er) ps) (d0 :: dr) (e0 :: er)) = true := by
  have := c08_wide_tail d0 dr e0 er ps [] (wideOK2_of_wideOK _ _ (List.cons_ne_nil _ _) ps [] hw)
  rwa [List.append_nil] at this

/-- kinds and values of the token list, spelled out: maximal texts and the tags, in order -/
theorem tokenize_wide_tnorm (d0 : Char) (dr : List Char) (e0 : Char) (er : List Char) (ps : List Piece)
    (hw : wideOK (d0 :: dr) (e0 :: er) ps [] = true) :
    (tokenize (renderAll (d0 :: dr) (e0 :: er) ps) (d0 :: dr) (e0 :: er)).map (fun t => (t.kind, t.value))
      = tnorm (d0 :: dr) (e0 :: er) [] ps [] := by
  have := tokenize_wide_tail d0 dr e0 er ps [] (wideOK2_of_wideOK _ _ (List.cons_ne_nil _ _) ps [] hw)
  rwa [List.append_nil] at this

theorem wideOK_of_ok (d0 : Char) (dr : List Char) (e0 : Char) (er : List Char) :
    ∀ (ps : List Piece) (acc : List Char), (∀ p ∈ ps, p.ok d0 e0) → (∀ c ∈ acc, c ≠ d0) →
      wideOK (d0 :: dr) (e0 :: er) ps acc = true
  | [], acc, _, ha => by
    simp [wideOK, textFit, quietT_free d0 dr acc ha, noOcc_free d0 dr acc ha]
  | .text s :: ps, acc, hok, ha => by
    have hs : ∀ c ∈ s, c ≠ d0 := hok (.text s) List.mem_cons_self
    exact wideOK_of_ok d0 dr e0 er ps (acc ++ s) (fun p hp => hok p (List.mem_cons_of_mem _ hp))
      (fun c hc => (List.mem_append.mp hc).elim (ha c) (hs c))
  | .tag b0 rest :: ps, acc, hok, ha => by
    have hr : ∀ c ∈ rest, c ≠ e0 := hok (.tag b0 rest) List.mem_cons_self
    simp only [wideOK, textFit, bodyFit, quietT_free d0 dr acc ha, noOcc_free d0 dr acc ha, quietE_free e0 er rest hr,
      noOcc_free e0 er rest hr, Bool.and_self, Bool.true_and]
    exact wideOK_of_ok d0 dr e0 er ps [] (fun p hp => hok p (List.mem_cons_of_mem _ hp)) nofun

/-! ### instances: the hypothesis is met by documents that `Piece.ok` excludes (`htmlPs` of Props/C08Tail.lean, `jsPs`),
    and fails on the D4 witnesses -/

set_option maxRecDepth 16384 in
example : wideOK "<!-- <".toList "> -->".toList htmlPs [] = true ∧
    (htmlPs.all fun p => match p with | .text s => !s.contains '<' | _ => true) = false := by
  unfold htmlPs
  repeat rw [mkTag_ofList]
  decide_lit

/-- JavaScript with `/* <` / `> */`: the text holds `/`, `//` and `/*` -/
def jsPs : List Piece :=
  [.text "// header\nlet x = a / b; /* note */\n".toList,
   mkTag "removal-marker name='feature-x'",
   .text "\nlegacy(); // gone\n".toList,
   mkTag "/removal-marker",
   .text "\n".toList]

set_option maxRecDepth 16384 in
example : wideOK "/* <".toList "> */".toList jsPs [] = true := by
  unfold jsPs
  repeat rw [mkTag_ofList]
  decide_lit

/-- the D4 witnesses do not fit: a partial match is pending where the real delimiter begins -/
example : wideOK "/* <".toList "> */".toList [.text "/".toList, mkTag "rm a", .text "x".toList, mkTag "/rm"] [] = false := by
  repeat rw [mkTag_ofList]
  decide_lit
example : wideOK "<!-- <".toList "> -->".toList [mkTag "t>"] [] = false := by
  rw [mkTag_ofList]
  decide_lit
example : wideOK "aab".toList "bba".toList [.text "a".toList, mkTag "x"] [] = false := by
  rw [mkTag_ofList]
  decide_lit

end Chiritori.Props.C08
