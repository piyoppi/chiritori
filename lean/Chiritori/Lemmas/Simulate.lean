import Chiritori.Lemmas.Reparse
/-
  One document in two spellings (other delimiters, other tag names, other whitespace): the two token lists are related
  token by token (`PW Q`), the stack machine runs on them in lock step, and the two forests have the same shape
  (`Alike Q E`: tokens related by `Q`, elements by `E`).  What the machine needs to know of a spelling is `Spelling`;
  what it needs of a relation between forests is `Congr`, so that the same run also serves relations that are not
  shape for shape.  Pruning, flattening and listing the elements keep forests alike.
-/
namespace Chiritori
open Spec

inductive PW {α β : Type} (R : α → β → Prop) : List α → List β → Prop
  | nil : PW R [] []
  | cons {a b as bs} : R a b → PW R as bs → PW R (a :: as) (b :: bs)

namespace PW
variable {α β : Type} {R : α → β → Prop}

theorem append {a c : List α} {b d : List β} (h1 : PW R a b) (h2 : PW R c d) : PW R (a ++ c) (b ++ d) := by
  induction h1 with
  | nil => exact h2
  | cons h _ ih => exact .cons h ih

/-- a relation on lists defined by recursion through the two lists together is `PW` of its clause for two heads -/
theorem of_unfold {S : List α → List β → Prop} (nil : S [] [])
    (cons : ∀ a b as bs, S (a :: as) (b :: bs) ↔ R a b ∧ S as bs) (left : ∀ b bs, ¬ S [] (b :: bs))
    (right : ∀ a as, ¬ S (a :: as) []) (l : List α) (l' : List β) : S l l' ↔ PW R l l' := by
  constructor
  · intro h
    induction l generalizing l' with
    | nil =>
      cases l' with
      | nil => exact .nil
      | cons b bs => exact absurd h (left b bs)
    | cons a as ih =>
      cases l' with
      | nil => exact absurd h (right a as)
      | cons b bs => exact .cons ((cons a b as bs).mp h).1 (ih bs ((cons a b as bs).mp h).2)
  · intro h
    induction h with
    | nil => exact nil
    | cons h _ ih => exact (cons _ _ _ _).mpr ⟨h, ih⟩

/-- the implication may use where the items stand -/
theorem imp_mem {S : α → β → Prop} {l : List α} {l' : List β} (h : PW R l l')
    (hRS : ∀ a b, a ∈ l → b ∈ l' → R a b → S a b) : PW S l l' := by
  induction h with
  | nil => exact .nil
  | cons hab _ ih =>
    exact .cons (hRS _ _ List.mem_cons_self List.mem_cons_self hab)
      (ih fun a b ha hb => hRS a b (List.mem_cons_of_mem _ ha) (List.mem_cons_of_mem _ hb))

theorem mono {S : α → β → Prop} (hRS : ∀ a b, R a b → S a b) {l : List α} {l' : List β} (h : PW R l l') : PW S l l' :=
  h.imp_mem fun a b _ _ => hRS a b

theorem and {S : α → β → Prop} {l : List α} {l' : List β} (h1 : PW R l l') (h2 : PW S l l') :
    PW (fun a b => R a b ∧ S a b) l l' := by
  induction h1 with
  | nil => exact .nil
  | cons h _ ih =>
    cases h2 with
    | cons g gs => exact .cons ⟨h, g⟩ (ih gs)

theorem get {l : List α} {l' : List β} (h : PW R l l') (i : Nat) (hi : i < l.length) (hi' : i < l'.length) :
    R l[i] l'[i] := by
  induction h generalizing i with
  | nil => simp at hi
  | cons h _ ih =>
    cases i with
    | zero => exact h
    | succ i => exact ih i (by simpa using hi) (by simpa using hi')

theorem map {γ δ : Type} {f : γ → α} {g : δ → β} {l : List γ} {l' : List δ} (h : PW R (l.map f) (l'.map g)) :
    PW (fun a b => R (f a) (g b)) l l' := by
  induction l generalizing l' with
  | nil =>
    cases l' with
    | nil => exact .nil
    | cons _ _ => cases h
  | cons a as ih =>
    cases l' with
    | nil => cases h
    | cons b bs =>
      cases h with
      | cons h hs => exact .cons h (ih hs)

theorem map_eq {γ : Type} {f : α → γ} {g : β → γ} (hfg : ∀ a b, R a b → f a = g b) {l : List α} {l' : List β}
    (h : PW R l l') : l.map f = l'.map g := by
  induction h with
  | nil => rfl
  | cons h _ ih => rw [List.map_cons, List.map_cons, hfg _ _ h, ih]

theorem forall_right {p : α → Prop} {q : β → Prop} (hpq : ∀ a b, R a b → p a → q b) {l : List α} {l' : List β}
    (h : PW R l l') (hl : ∀ a ∈ l, p a) : ∀ b ∈ l', q b := by
  induction h with
  | nil => intro b hb; cases hb
  | cons h _ ih =>
    intro b hb
    rcases List.mem_cons.mp hb with rfl | hb
    · exact hpq _ _ h (hl _ (by simp))
    · exact ih (fun a ha => hl a (by simp [ha])) b hb

end PW

def Both {α β : Type} (R : α → β → Prop) (x : Option α) (y : Option β) : Prop :=
  (x = none ∧ y = none) ∨ ∃ a b, x = some a ∧ y = some b ∧ R a b

theorem Both.of_eq {α : Type} {x y : Option α} (h : x = y) : Both Eq x y := by
  subst h
  cases x with
  | none => exact .inl ⟨rfl, rfl⟩
  | some a => exact .inr ⟨a, a, rfl, rfl, rfl⟩

section
variable (ds de ds' de' : List Char) (Q : Token → Token → Prop) (E : Element → Element → Prop)

/-- what relates two spellings for the parser: related tokens are both no tags or are tags of related elements, and
    related elements are closing tags together and are compared alike with the names on the stack -/
structure Spelling : Prop where
  parse : ∀ t u, Q t u → Both E (elparse ds de t) (elparse ds' de' u)
  closing : ∀ e e', E e e' → (e'.name.head? = some '/' ↔ e.name.head? = some '/')
  same : ∀ f f' e e', E f f' → E e e' → (f.name = trimSlashes e.name ↔ f'.name = trimSlashes e'.name)

theorem Spelling.mono {Q' : Token → Token → Prop} (h : Spelling ds de ds' de' Q E) (hQ : ∀ t u, Q' t u → Q t u) :
    Spelling ds de ds' de' Q' E :=
  ⟨fun t u htu => h.parse t u (hQ t u htu), h.closing, h.same⟩

/-- a relation between forests that every move of the stack machine respects -/
structure Congr (F : List Part → List Part → Prop) : Prop where
  nil : F [] []
  append : ∀ {a b c d}, F a b → F c d → F (a ++ c) (b ++ d)
  text : ∀ {t u}, Q t u → F [.text t] [.text u]
  element : ∀ {el el' st st' en en' ch ch'}, E el el' → Q st st' → Q en en' → F ch ch' →
    F [.element el st en ch] [.element el' st' en' ch']

/-- forests of the same shape: corresponding tokens are related by `Q`, corresponding elements by `E` -/
inductive Alike : List Part → List Part → Prop
  | nil : Alike [] []
  | text {t u ps qs} : Q t u → Alike ps qs → Alike (.text t :: ps) (.text u :: qs)
  | element {el el' st st' en en' ch ch' ps qs} : E el el' → Q st st' → Q en en' → Alike ch ch' → Alike ps qs →
      Alike (.element el st en ch :: ps) (.element el' st' en' ch' :: qs)

end

namespace Alike
variable {Q : Token → Token → Prop} {E : Element → Element → Prop}

theorem append {a b c d : List Part} (h1 : Alike Q E a b) (h2 : Alike Q E c d) : Alike Q E (a ++ c) (b ++ d) := by
  induction h1 with
  | nil => exact h2
  | text h _ ih => exact .text h ih
  | element he h1 h2 hch _ _ ih => exact .element he h1 h2 hch ih

theorem congr : Congr Q E (Alike Q E) :=
  ⟨.nil, append, fun h => .text h .nil, fun he h1 h2 hch => .element he h1 h2 hch .nil⟩

theorem flatten {a b : List Part} (h : Alike Q E a b) : PW Q (flattenParts a) (flattenParts b) := by
  induction h with
  | nil => exact .nil
  | text h _ ih => exact .cons h ih
  | element _ h1 h2 _ _ ihc ih =>
    simp only [flattenParts, flattenPart]
    exact (PW.cons h1 (ihc.append (.cons h2 .nil))).append ih

theorem prune {P P' : Element → Bool} (hP : ∀ e e', E e e' → P' e' = P e) {a b : List Part} (h : Alike Q E a b) :
    Alike Q E (pruneParts P a) (pruneParts P' b) := by
  induction h with
  | nil => exact .nil
  | text h _ ih => exact .text h ih
  | element he h1 h2 _ _ ihc ih =>
    simp only [pruneParts, prunePart, hP _ _ he]
    split
    · exact ih
    · exact .element he h1 h2 ihc ih

theorem elements {a b : List Part} (h : Alike Q E a b) : PW (fun x y => E x.1 y.1) (elementsOf a) (elementsOf b) := by
  induction h with
  | nil => exact .nil
  | text _ _ ih => exact ih
  | element he _ _ _ _ ihc ih =>
    simp only [elementsOf, elementsOfPart]
    exact PW.append (.cons he ihc) ih

theorem forall_elements {a b : List Part} (h : Alike Q E a b) {p p' : Element → Prop}
    (hp : ∀ e e', E e e' → p e → p' e') (ha : ∀ x ∈ elementsOf a, p x.1) : ∀ y ∈ elementsOf b, p' y.1 :=
  h.elements.forall_right (fun x y hxy => hp x.1 y.1 hxy) ha

end Alike

section
variable {ds de ds' de' : List Char} {Q : Token → Token → Prop} {E : Element → Element → Prop}
  {F : List Part → List Part → Prop}

def FrameRel (Q : Token → Token → Prop) (E : Element → Element → Prop) (F : List Part → List Part → Prop)
    (f g : Frame) : Prop :=
  E f.el g.el ∧ Q f.tok g.tok ∧ F f.parts g.parts

def StateRel (Q : Token → Token → Prop) (E : Element → Element → Prop) (F : List Part → List Part → Prop)
    (s t : List Frame × List Part) : Prop :=
  PW (FrameRel Q E F) s.1 t.1 ∧ F s.2 t.2

theorem appendTo_sim (hF : Congr Q E F) {S S' : List Frame} {r r' x x' : List Part} (hS : PW (FrameRel Q E F) S S')
    (hr : F r r') (hx : F x x') : StateRel Q E F (appendTo S r x) (appendTo S' r' x') := by
  cases hS with
  | nil => exact ⟨.nil, hF.append hr hx⟩
  | cons hf hrest => exact ⟨.cons ⟨hf.1, hf.2.1, hF.append hf.2.2 hx⟩ hrest, hr⟩

theorem stack_any {name name' : List Char} (hname : ∀ e e', E e e' → (e.name = name ↔ e'.name = name'))
    {S S' : List Frame} (hS : PW (FrameRel Q E F) S S') :
    S.any (fun f => f.el.name == name) = S'.any (fun f => f.el.name == name') := by
  induction hS with
  | nil => rfl
  | @cons f g _ _ hf _ ih =>
    have : (f.el.name == name) = (g.el.name == name') := by
      rw [Bool.eq_iff_iff]
      simpa using hname _ _ hf.1
    rw [List.any_cons, List.any_cons, ih, this]

theorem closeFrame_sim (hF : Congr Q E F) {name name' : List Char}
    (hname : ∀ e e', E e e' → (e.name = name ↔ e'.name = name')) {c c' : Token} (hc : Q c c') {S S' : List Frame}
    (hS : PW (FrameRel Q E F) S S') {r r' : List Part} (hr : F r r') {h h' : List Part} (hh : F h h') :
    Both (StateRel Q E F) (closeFrame name c S r h) (closeFrame name' c' S' r' h') := by
  induction hS generalizing h h' with
  | nil => exact .inl ⟨rfl, rfl⟩
  | @cons f g fs gs hf hrest ih =>
    simp only [closeFrame]
    by_cases hn : f.el.name = name
    · rw [if_pos hn, if_pos ((hname _ _ hf.1).mp hn)]
      exact .inr ⟨_, _, rfl, rfl, appendTo_sim hF hrest hr (hF.element hf.1 hf.2.1 hc (hF.append hf.2.2 hh))⟩
    · rw [if_neg hn, if_neg (fun hn' => hn ((hname _ _ hf.1).mpr hn'))]
      exact ih (hF.append (hF.text hf.2.1) (hF.append hf.2.2 hh))

theorem stackStep_sim (hs : Spelling ds de ds' de' Q E) (hF : Congr Q E F) {st st' : List Frame × List Part}
    (h : StateRel Q E F st st') {t u : Token} (htu : Q t u) :
    StateRel Q E F (stackStep ds de st t) (stackStep ds' de' st' u) := by
  obtain ⟨S, r⟩ := st
  obtain ⟨S', r'⟩ := st'
  obtain ⟨hS, hr⟩ := h
  rcases hs.parse t u htu with ⟨h1, h2⟩ | ⟨e, e', h1, h2, he⟩
  · rw [stackStep_text ds de S r t h1, stackStep_text ds' de' S' r' u h2]
    exact appendTo_sim hF hS hr (hF.text htu)
  · have hname := fun f f' hf => hs.same f f' e e' hf he
    simp only [stackStep, h1, h2, hs.closing e e' he, ← stack_any hname hS]
    split
    · rcases closeFrame_sim hF hname htu hS hr hF.nil with ⟨c1, c2⟩ | ⟨a, b, c1, c2, hab⟩
      · rw [c1, c2]; exact ⟨hS, hr⟩
      · rw [c1, c2]; exact hab
    · exact ⟨.cons ⟨he, htu, hF.nil⟩ hS, hr⟩

theorem runM_sim (hs : Spelling ds de ds' de' Q E) (hF : Congr Q E F) {T T' : List Token} (h : PW Q T T') :
    ∀ {st st' : List Frame × List Part}, StateRel Q E F st st' →
      StateRel Q E F (runM ds de st T) (runM ds' de' st' T') := by
  induction h with
  | nil => exact id
  | cons htu _ ih => exact fun hst => ih (stackStep_sim hs hF hst htu)

theorem finishStack_sim (hF : Congr Q E F) {S S' : List Frame} (hS : PW (FrameRel Q E F) S S') {r r' : List Part}
    (hr : F r r') : ∀ {h h' : List Part}, F h h' → F (finishStack S h r) (finishStack S' h' r') := by
  induction hS with
  | nil => exact fun hh => hF.append hr hh
  | cons hf _ ih => exact fun hh => ih (hF.append (hF.text hf.2.1) (hF.append hf.2.2 hh))

theorem finish_sim (hF : Congr Q E F) {st st' : List Frame × List Part} (h : StateRel Q E F st st') :
    F (finishStack st.1 [] st.2) (finishStack st'.1 [] st'.2) :=
  finishStack_sim hF h.1 h.2 hF.nil

theorem parse_sim (hs : Spelling ds de ds' de' Q E) (hF : Congr Q E F) {T T' : List Token} (h : PW Q T T') :
    F (parse ds de T) (parse ds' de' T') := by
  rw [parse_eq_finish, parse_eq_finish]
  exact finish_sim hF (runM_sim hs hF h ⟨.nil, hF.nil⟩)

end

end Chiritori
