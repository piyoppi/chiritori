import Chiritori.Lemmas.Pieces
import Chiritori.Lemmas.Totality
/-
  Counting kept bytes: `koffTo n` is the offset, in the text after removal, of source position `n`.
  On the kept positions it is strictly increasing, with the positions of the text after removal as its values;
  the positions `get_removed_pos` computes are the offsets of the markers.
-/
namespace Chiritori
open Spec

def koffTo (ext : List Rng) (b : Bytes) (n : Nat) : Nat := koff ext (b.zipIdx.take n)

theorem keptOf_zipIdx (ext : List Rng) (a : Bytes) (off : Nat) : keptOf ext (a.zipIdx off) = minusFrom a off ext := rfl

theorem minusRanges_eq_keptOf (b : Bytes) (rs : List Rng) : minusRanges b rs = keptOf rs b.zipIdx := rfl

theorem keptOf_append (ext : List Rng) (a c : List (ABy × Nat)) : keptOf ext (a ++ c) = keptOf ext a ++ keptOf ext c := by
  simp [keptOf]

theorem zipIdx_slice (b : Bytes) (n k : Nat) : (b.zipIdx.drop n).take k = ((b.drop n).take k).zipIdx n := by
  apply List.ext_getElem?
  intro j
  simp only [List.getElem?_take, List.getElem?_drop, List.getElem?_zipIdx, Nat.zero_add]
  split <;> rfl

theorem zipIdx_split (b : Bytes) (n : Nat) (x : ABy) (h : b[n]? = some x) :
    b.zipIdx = b.zipIdx.take n ++ (x, n) :: b.zipIdx.drop (n + 1) := by
  have h1 : b.zipIdx[n]? = some (x, n) := by rw [List.getElem?_zipIdx, h]; simp
  obtain ⟨hlt, h2⟩ := List.getElem?_eq_some_iff.mp h1
  conv => lhs; rw [← List.take_append_drop n b.zipIdx, List.drop_eq_getElem_cons hlt, h2]

theorem koffTo_zero (ext : List Rng) (b : Bytes) : koffTo ext b 0 = 0 := rfl

theorem koffTo_add (ext : List Rng) (b : Bytes) (n k : Nat) :
    koffTo ext b (n + k) = koffTo ext b n + (minusFrom ((b.drop n).take k) n ext).length := by
  unfold koffTo
  rw [List.take_add, zipIdx_slice, koff_eq_length, keptOf_append, List.length_append, keptOf_zipIdx, ← koff_eq_length]

theorem koffTo_keep (ext : List Rng) (b : Bytes) (n k : Nat) (hl : n + k ≤ b.length)
    (h : ∀ i, n ≤ i → i < n + k → inAny ext i = false) : koffTo ext b (n + k) = koffTo ext b n + k := by
  have hlen : ((b.drop n).take k).length = k := by rw [List.length_take, List.length_drop]; omega
  rw [koffTo_add, minusFrom_keep _ _ _ (by rw [hlen]; exact h), hlen]

theorem koffTo_drop (ext : List Rng) (b : Bytes) (n k : Nat)
    (h : ∀ i, n ≤ i → i < n + k → inAny ext i = true) : koffTo ext b (n + k) = koffTo ext b n := by
  rw [koffTo_add, minusFrom_drop _ _ _ (fun i h1 h2 => h i h1 (by
    rw [List.length_take] at h2
    exact Nat.lt_of_lt_of_le h2 (Nat.add_le_add_left (Nat.min_le_left _ _) _)))]
  rfl

theorem koffTo_mono (ext : List Rng) (b : Bytes) (n n' : Nat) (h : n ≤ n') : koffTo ext b n ≤ koffTo ext b n' := by
  obtain ⟨k, rfl⟩ := Nat.exists_eq_add_of_le h
  rw [koffTo_add]
  exact Nat.le_add_right _ _

theorem koffTo_le (ext : List Rng) (b : Bytes) (n : Nat) : koffTo ext b n ≤ n :=
  Nat.le_trans (List.length_filter_le _ _) (List.length_take_le _ _)

theorem koffTo_lt_iff (ext : List Rng) (b : Bytes) (n n' : Nat) (hn : n < b.length) (h : inAny ext n = false) :
    koffTo ext b n < koffTo ext b n' ↔ n < n' := by
  constructor
  · intro hlt
    exact Nat.lt_of_not_le fun hle => Nat.not_le_of_lt hlt (koffTo_mono ext b n' n hle)
  · intro hlt
    have := koffTo_keep ext b n 1 hn (fun i h1 h2 => by rw [show i = n by omega]; exact h)
    exact Nat.lt_of_lt_of_le (by omega) (koffTo_mono ext b (n + 1) n' hlt)

theorem between_markers_of_koffTo (ext : List Rng) (b : Bytes) (s e n' n : Nat) (hn : n < b.length)
    (h : inAny ext n = false) (hse : ∀ i, s ≤ i → i < e → inAny ext i = true)
    (h1 : koffTo ext b s ≤ koffTo ext b n) (h2 : koffTo ext b n < koffTo ext b n') : e ≤ n ∧ n < n' := by
  refine ⟨?_, (koffTo_lt_iff ext b n n' hn h).mp h2⟩
  have hs : s ≤ n := Nat.le_of_not_lt fun hlt => Nat.not_le_of_lt ((koffTo_lt_iff ext b n s hn h).mpr hlt) h1
  exact Nat.le_of_not_lt fun hlt => by rw [hse n hs hlt] at h; cases h

theorem mcov_cons_after (m : Marker) (ms : List Marker) (i : Nat) (h : m.stop ≤ i) : mcov (m :: ms) i ↔ mcov ms i := by
  constructor
  · rintro ⟨m', hm', g1, g2⟩
    rcases List.mem_cons.mp hm' with rfl | hm'
    · omega
    · exact ⟨m', hm', g1, g2⟩
  · rintro ⟨m', hm', g⟩
    exact ⟨m', List.mem_cons_of_mem _ hm', g⟩

theorem positions_koffTo (ext : List Rng) (b : Bytes) : ∀ (ms : List Marker) (k lo hi : Nat),
    MSorted ms lo hi → hi ≤ b.length → (∀ i, lo ≤ i → (inAny ext i = true ↔ mcov ms i)) →
    k + koffTo ext b lo = lo → positions ms k = ms.map fun m => koffTo ext b m.start := by
  intro ms
  induction ms with
  | nil => intros; rfl
  | cons m ms ih =>
    intro k lo hi hs hl hc hk
    have hin : ∀ i, i < m.start → ¬ mcov (m :: ms) i := fun i hi' hm =>
      Nat.not_le_of_lt hi' (mcov_bounds (m :: ms) m.start hi i ⟨Nat.le_refl _, hs.2⟩ hm).1
    obtain ⟨h1, h2, h3⟩ := hs
    have hle := MSorted_le ms m.stop hi h3
    obtain ⟨d, hd⟩ := Nat.exists_eq_add_of_le h1
    obtain ⟨w, hw⟩ := Nat.exists_eq_add_of_le (Nat.le_of_lt h2)
    -- nothing is removed between `lo` and the marker, the marker is removed
    have e1 : koffTo ext b m.start = koffTo ext b lo + d := by
      rw [hd]
      exact koffTo_keep ext b lo d (by omega) (fun i hi1 hi2 =>
        Bool.eq_false_iff.mpr fun hx => hin i (hd ▸ hi2) ((hc i hi1).mp hx))
    have e2 : koffTo ext b m.stop = koffTo ext b m.start := by
      rw [hw]
      exact koffTo_drop ext b m.start w (fun i hi1 hi2 =>
        (hc i (Nat.le_trans h1 hi1)).mpr ⟨m, List.mem_cons_self, hi1, hw ▸ hi2⟩)
    rw [positions, List.map_cons, ih (k + (m.stop - m.start)) m.stop hi h3 hl
      (fun i hi1 => by rw [hc i (Nat.le_trans h1 (Nat.le_trans (Nat.le_of_lt h2) hi1)), mcov_cons_after m ms i hi1])
      (by rw [e2, hw, Nat.add_sub_cancel_left, e1, hd]; omega)]
    congr 1
    exact Nat.sub_eq_of_eq_add (by rw [e1, hd]; omega)

/-- what `clean` hands to `format`: for each marker the offset of its start, and the index of its pair -/
theorem removedPos_koffTo (ext : List Rng) (b : Bytes) (ms : List Marker) (hi : Nat) (hs : MSorted ms 0 hi)
    (hl : hi ≤ b.length) (hc : ∀ i, inAny ext i = true ↔ mcov ms i) :
    (positions ms 0).zip (ms.map (·.pair)) = ms.map fun m => (koffTo ext b m.start, m.pair) := by
  rw [positions_koffTo ext b ms 0 0 hi hs hl (fun i _ => hc i) rfl, List.zip_map']

theorem filter_getElem?_split {α} (p : α → Bool) : ∀ (l : List α) (q : Nat) (e : α), (l.filter p)[q]? = some e →
    ∃ l1 l2, l = l1 ++ e :: l2 ∧ (l1.filter p).length = q ∧ p e = true
  | [], q, e, h => by simp at h
  | a :: l, q, e, h => by
    by_cases ha : p a = true
    · rw [List.filter_cons_of_pos ha] at h
      cases q with
      | zero =>
        simp only [List.getElem?_cons_zero, Option.some.injEq] at h
        subst h
        exact ⟨[], l, rfl, rfl, ha⟩
      | succ q =>
        simp only [List.getElem?_cons_succ] at h
        obtain ⟨l1, l2, e1, e2, e3⟩ := filter_getElem?_split p l q e h
        exact ⟨a :: l1, l2, by rw [e1]; rfl, by simp [List.filter_cons_of_pos ha, e2], e3⟩
    · rw [List.filter_cons_of_neg ha] at h
      obtain ⟨l1, l2, e1, e2, e3⟩ := filter_getElem?_split p l q e h
      exact ⟨a :: l1, l2, by rw [e1]; rfl, by simp [List.filter_cons_of_neg ha, e2], e3⟩

theorem keptOf_getElem? (ext : List Rng) (b : Bytes) (q : Nat) (x : ABy) :
    (keptOf ext b.zipIdx)[q]? = some x ↔ ∃ i, b[i]? = some x ∧ inAny ext i = false ∧ koffTo ext b i = q := by
  constructor
  · intro h
    simp only [keptOf, List.getElem?_map, Option.map_eq_some_iff] at h
    obtain ⟨⟨x', i⟩, he, rfl⟩ := h
    obtain ⟨l1, l2, e1, e2, e3⟩ := filter_getElem?_split _ _ q _ he
    -- the element behind `l1` carries its own index
    have hidx : b.zipIdx[l1.length]? = some (x', i) := by rw [e1]; simp
    simp only [List.getElem?_zipIdx, Option.map_eq_some_iff, Prod.mk.injEq, Nat.zero_add] at hidx
    obtain ⟨y, hy, rfl, rfl⟩ := hidx
    refine ⟨l1.length, hy, by simpa using e3, ?_⟩
    rw [← e2, koffTo, e1, List.take_left]
    rfl
  · rintro ⟨i, hb, hk, rfl⟩
    rw [zipIdx_split b i x hb, keptOf_append, keptOf_cons_out ext x i _ hk, koffTo, koff_eq_length,
      List.getElem?_append_right (Nat.le_refl _), Nat.sub_self]
    rfl

theorem pieces_end_removed (ext bodies : List Rng) (b : Bytes) (n : Nat) (hn : n < b.length) (h : inAny ext n = true) :
    koffTo ext b n ∈ segEnds (piecesAux ext bodies b.zipIdx []) 0 := by
  have := (piecesAux_ends ext bodies (b.zipIdx.take n) b[n] n (b.zipIdx.drop (n + 1)) [] 0).1 h
  rw [← zipIdx_split b n _ (List.getElem?_eq_getElem hn)] at this
  simp only [List.length_nil, Nat.add_zero, Nat.zero_add] at this
  exact this

theorem pieces_end_nl (ext bodies : List Rng) (b : Bytes) (n : Nat) (hb : b[n]? = some (.lead '\n'))
    (h : inAny ext n = false) (hin : inAny bodies n = true) :
    koffTo ext b n + 1 ∈ segEnds (piecesAux ext bodies b.zipIdx []) 0 := by
  have := (piecesAux_ends ext bodies (b.zipIdx.take n) _ n (b.zipIdx.drop (n + 1)) [] 0).2 h hin rfl
  rw [← zipIdx_split b n _ hb] at this
  simp only [List.length_nil, Nat.add_zero, Nat.zero_add] at this
  exact this

end Chiritori
