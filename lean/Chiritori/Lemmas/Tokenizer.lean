import Chiritori.Lemmas.Text
import Chiritori.Model.Tokenizer
/-
  The fold invariant of the tokenizer and what it gives for the final token list.
-/
namespace Chiritori

def flat (ts : List Token) : List Char := ts.flatMap (·.value)

@[simp] theorem flat_nil : flat [] = [] := rfl
@[simp] theorem flat_cons (t : Token) (ts : List Token) : flat (t :: ts) = t.value ++ flat ts := rfl
@[simp] theorem flat_append (a b : List Token) : flat (a ++ b) = flat a ++ flat b := by
  simp [flat, List.flatMap_append]

/-- tokens are non-empty, internally consistent and contiguous, starting at char `s` / byte `bs` -/
def ChainFrom : List Token → Nat → Nat → Prop
  | [], _, _ => True
  | t :: ts, s, bs =>
    t.start = s ∧ t.bstart = bs ∧ t.value ≠ [] ∧ t.stop = s + t.value.length ∧
    t.bstop = bs + blen t.value ∧ ChainFrom ts t.stop t.bstop

theorem chainFrom_append (a b : List Token) (s bs : Nat) :
    ChainFrom (a ++ b) s bs ↔ ChainFrom a s bs ∧ ChainFrom b (s + (flat a).length) (bs + blen (flat a)) := by
  induction a generalizing s bs with
  | nil => simp [ChainFrom]
  | cons t ts ih =>
    simp only [List.cons_append, ChainFrom, ih, flat_cons, List.length_append, blen_append]
    constructor
    · rintro ⟨h1, h2, h3, h4, h5, h6, h7⟩
      refine ⟨⟨h1, h2, h3, h4, h5, h6⟩, ?_⟩
      rw [h4, h5] at h7
      simpa [Nat.add_assoc] using h7
    · rintro ⟨⟨h1, h2, h3, h4, h5, h6⟩, h7⟩
      refine ⟨h1, h2, h3, h4, h5, h6, ?_⟩
      rw [h4, h5]
      simpa [Nat.add_assoc] using h7

theorem chain_value_ne_nil (ts : List Token) (s bs : Nat) (h : ChainFrom ts s bs) : ∀ u ∈ ts, u.value ≠ [] := by
  induction ts generalizing s bs with
  | nil => nofun
  | cons a as ih =>
    intro u hu
    rcases List.mem_cons.mp hu with rfl | hu
    · exact h.2.2.1
    · exact ih _ _ h.2.2.2.2.2 u hu

theorem chain_token_bounds (ts : List Token) (s bs : Nat) (h : ChainFrom ts s bs) :
    ∀ t ∈ ts, bs ≤ t.bstart ∧ t.bstart < t.bstop ∧ t.bstop ≤ bs + blen (flat ts) := by
  induction ts generalizing s bs with
  | nil => simp
  | cons a rest ih =>
    obtain ⟨_, h2, h3, _, h5, h6⟩ := h
    intro t ht
    rw [flat_cons, blen_append, ← Nat.add_assoc]
    rcases List.mem_cons.mp ht with rfl | ht
    · rw [h2, h5]
      exact ⟨Nat.le_refl _, Nat.lt_add_of_pos_right (blen_pos_of_ne_nil h3), Nat.le_add_right _ _⟩
    · obtain ⟨b1, b2, b3⟩ := ih a.stop a.bstop h6 t ht
      rw [h5] at b1 b3
      exact ⟨Nat.le_trans (Nat.le_add_right _ _) b1, b2, b3⟩

theorem checkDelimiterStart_cases (c : Char) (ds : List Char) :
    checkDelimiterStart c ds = .text ∨ ∃ r, ds = c :: r ∧ checkDelimiterStart c ds = .dstart r := by
  unfold checkDelimiterStart
  cases ds with
  | nil => exact Or.inl rfl
  | cons d rest => by_cases h : c = d <;> simp [h]

theorem checkDelimiterStart_self (d : Char) (r : List Char) : checkDelimiterStart d (d :: r) = .dstart r := by
  simp [checkDelimiterStart]

theorem checkDelimiterStart_of_ne {c d : Char} (h : c ≠ d) (r : List Char) : checkDelimiterStart c (d :: r) = .text := by
  simp [checkDelimiterStart, h]

theorem getState_text_of_text {c : Char} {ds : List Char} (de : List Char) (h : checkDelimiterStart c ds = .text) :
    getState c ds de .text = (none, .text) := by
  simp only [getState, h]

theorem getState_text_of_dstart {c : Char} {ds r : List Char} (de : List Char) (h : checkDelimiterStart c ds = .dstart r) :
    getState c ds de .text = (some .text, .dstart r) := by
  simp only [getState, h]

theorem getState_text_snd (c : Char) (ds de : List Char) : (getState c ds de .text).2 = checkDelimiterStart c ds := by
  rcases checkDelimiterStart_cases c ds with h | ⟨r, -, h⟩
  · rw [getState_text_of_text de h, h]
  · rw [getState_text_of_dstart de h, h]

theorem getState_dstart_nil (c : Char) (ds de : List Char) : getState c ds de (.dstart []) = (none, .inDelim) := rfl

theorem getState_dstart_cons (c : Char) (ds de : List Char) (x : Char) (r : List Char) :
    getState c ds de (.dstart (x :: r)) = if c = x then (none, .dstart r) else (none, .text) := rfl

theorem getState_inDelim (c : Char) (ds : List Char) (e0 : Char) (er : List Char) :
    getState c ds (e0 :: er) .inDelim = if c = e0 then (none, .dend er) else (none, .inDelim) := rfl

theorem getState_dend_nil (c : Char) (ds de : List Char) :
    getState c ds de (.dend []) = (some .element, checkDelimiterStart c ds) := rfl

theorem getState_dend_cons (c : Char) (ds de : List Char) (x : Char) (r : List Char) :
    getState c ds de (.dend (x :: r)) = if c = x then (none, .dend r) else (none, .inDelim) := rfl

theorem getState_some {c : Char} {ds de : List Char} {st st' : TState} {k : TKind}
    (h : getState c ds de st = (some k, st')) :
    st' = checkDelimiterStart c ds ∧ ((st = .dend [] ∧ k = .element) ∨ (st = .text ∧ k = .text)) := by
  cases st with
  | text =>
    rcases checkDelimiterStart_cases c ds with hc | ⟨r, -, hc⟩
    · rw [getState_text_of_text de hc] at h; cases h
    · rw [getState_text_of_dstart de hc] at h; cases h; exact ⟨hc.symm, Or.inr ⟨rfl, rfl⟩⟩
  | dstart r =>
    cases r with
    | nil => cases h
    | cons x r => rw [getState_dstart_cons] at h; split at h <;> cases h
  | inDelim =>
    cases de with
    | nil => cases h
    | cons e0 er => rw [getState_inDelim] at h; split at h <;> cases h
  | dend r =>
    cases r with
    | nil => cases h; exact ⟨rfl, Or.inl ⟨rfl, rfl⟩⟩
    | cons x r => rw [getState_dend_cons] at h; split at h <;> cases h

def DelimOK (ds de v : List Char) : Prop := ∃ body, body ≠ [] ∧ v = ds ++ body ++ de

def StInv (ds de : List Char) : TState → List Char → Prop
  | .text, _ => True
  | .dstart r, pend => pend ≠ [] ∧ pend ++ r = ds
  | .inDelim, pend => ∃ body, body ≠ [] ∧ pend = ds ++ body
  | .dend r, pend => ∃ body m, body ≠ [] ∧ m ≠ [] ∧ m ++ r = de ∧ pend = ds ++ body ++ m

structure TInv (ds de consumed : List Char) (a : TAcc) : Prop where
  chain : ChainFrom a.toks 0 0
  flatEq : flat a.toks ++ a.pend = consumed
  start : a.start = (flat a.toks).length
  bstart : a.bstart = blen (flat a.toks)
  cur : a.cur = consumed.length
  bpos : a.bpos = blen consumed
  kinds : ∀ t ∈ a.toks, t.kind = .element → DelimOK ds de t.value
  st : StInv ds de a.st a.pend
  pend : consumed ≠ [] → a.pend ≠ []

theorem tinv_init (ds de : List Char) : TInv ds de [] TAcc.init := by
  constructor <;> simp [TAcc.init, ChainFrom, StInv]

theorem checkDelimiterStart_inv (ds de : List Char) (c : Char) :
    StInv ds de (checkDelimiterStart c ds) [c] := by
  rcases checkDelimiterStart_cases c ds with h | ⟨r, rfl, h⟩ <;> rw [h]
  · trivial
  · exact ⟨List.cons_ne_nil _ _, rfl⟩

theorem getState_none_inv {ds de : List Char} (hde : de ≠ []) {st st' : TState} {pend : List Char} {c : Char}
    (h : StInv ds de st pend) (he : getState c ds de st = (none, st')) : StInv ds de st' (pend ++ [c]) := by
  cases st with
  | text =>
    rcases checkDelimiterStart_cases c ds with hc | ⟨r, -, hc⟩
    · rw [getState_text_of_text de hc] at he; cases he; trivial
    · rw [getState_text_of_dstart de hc] at he; cases he
  | dstart r =>
    obtain ⟨hp, hds⟩ := h
    cases r with
    | nil =>
      cases he
      exact ⟨[c], List.cons_ne_nil _ _, by rw [← hds, List.append_nil]⟩
    | cons x r =>
      rw [getState_dstart_cons] at he
      by_cases hx : c = x
      · rw [if_pos hx] at he; cases he
        exact ⟨List.append_ne_nil_of_left_ne_nil hp _, by rw [← hds, hx, List.append_assoc]; rfl⟩
      · rw [if_neg hx] at he; cases he; trivial
  | inDelim =>
    obtain ⟨body, hb, hp⟩ := h
    cases de with
    | nil => exact absurd rfl hde
    | cons e0 er =>
      rw [getState_inDelim] at he
      by_cases hx : c = e0
      · rw [if_pos hx] at he; cases he
        exact ⟨body, [c], hb, List.cons_ne_nil _ _, by rw [hx]; rfl, by rw [hp]⟩
      · rw [if_neg hx] at he; cases he
        exact ⟨body ++ [c], List.append_ne_nil_of_left_ne_nil hb _, by rw [hp, List.append_assoc]⟩
  | dend r =>
    obtain ⟨body, m, hb, hm, hmr, hp⟩ := h
    cases r with
    | nil => cases he
    | cons x r =>
      rw [getState_dend_cons] at he
      by_cases hx : c = x
      · rw [if_pos hx] at he; cases he
        exact ⟨body, m ++ [c], hb, List.append_ne_nil_of_left_ne_nil hm _, by rw [← hmr, hx, List.append_assoc]; rfl,
          by rw [hp, List.append_assoc]⟩
      · rw [if_neg hx] at he; cases he
        exact ⟨body ++ m ++ [c], List.append_ne_nil_of_right_ne_nil _ (List.cons_ne_nil _ _), by rw [hp]; simp⟩

theorem getState_some_inv {ds de : List Char} {st st' : TState} {pend : List Char} {c : Char} {k : TKind}
    (h : StInv ds de st pend) (he : getState c ds de st = (some k, st')) :
    StInv ds de st' [c] ∧ (k = .element → DelimOK ds de pend) := by
  obtain ⟨rfl, hk⟩ := getState_some he
  refine ⟨checkDelimiterStart_inv ds de c, fun hel => ?_⟩
  rcases hk with ⟨rfl, _⟩ | ⟨_, rfl⟩
  · obtain ⟨body, m, hb, _, hmr, hp⟩ := h
    exact ⟨body, hb, by rw [hp, ← hmr, List.append_nil]⟩
  · cases hel

structure TokensOK (ds de src : List Char) (ts : List Token) : Prop where
  chain : ChainFrom ts 0 0
  flatEq : flat ts = src
  kinds : ∀ t ∈ ts, t.kind = .element → DelimOK ds de t.value

theorem TokensOK.snoc {ds de src : List Char} {ts : List Token} (h : TokensOK ds de src ts) (t : Token)
    (ht : ChainFrom [t] src.length (blen src)) (hk : t.kind = .element → DelimOK ds de t.value) :
    TokensOK ds de (src ++ t.value) (ts ++ [t]) := by
  refine ⟨(chainFrom_append _ _ _ _).2 ⟨h.chain, by simpa [h.flatEq] using ht⟩, by simp [h.flatEq], ?_⟩
  intro t' ht' hke
  rcases List.mem_append.mp ht' with ht' | ht'
  · exact h.kinds t' ht' hke
  · rw [List.mem_singleton.mp ht'] at hke ⊢
    exact hk hke

theorem TInv.pos_iff {ds de consumed : List Char} {a : TAcc} (h : TInv ds de consumed a) :
    a.bpos - a.bstart > 0 ↔ a.pend ≠ [] := by
  rw [h.bpos, h.bstart, ← h.flatEq, blen_append]
  constructor
  · intro hp he
    simp [he] at hp
  · intro hp
    have := blen_pos_of_ne_nil hp
    omega

theorem TInv.push {ds de consumed : List Char} {a : TAcc} (h : TInv ds de consumed a) (kind : TKind)
    (hp : a.pend ≠ []) (hk : kind = .element → DelimOK ds de a.pend) :
    TokensOK ds de consumed (a.toks ++ [⟨kind, a.pend, a.start, a.bstart, a.cur, a.bpos⟩]) := by
  have := TokensOK.snoc ⟨h.chain, rfl, h.kinds⟩ ⟨kind, a.pend, a.start, a.bstart, a.cur, a.bpos⟩
    ⟨h.start, h.bstart, hp, by rw [h.cur, ← h.flatEq, List.length_append],
      by rw [h.bpos, ← h.flatEq, blen_append], trivial⟩ hk
  rwa [h.flatEq] at this

theorem tokStep_inv (ds de : List Char) (hde : de ≠ []) (consumed : List Char) (a : TAcc) (c : Char)
    (h : TInv ds de consumed a) : TInv ds de (consumed ++ [c]) (tokStep ds de a c) := by
  unfold tokStep
  cases hgs : getState c ds de a.st with
  | mk k st' =>
    cases k with
    | none =>
      exact {
        chain := h.chain, flatEq := by rw [← List.append_assoc, h.flatEq], start := h.start, bstart := h.bstart
        cur := by simp [h.cur], bpos := by simp [h.bpos, blen_append], kinds := h.kinds
        st := getState_none_inv hde h.st hgs, pend := fun _ => by simp }
    | some kind =>
      obtain ⟨hst, hk⟩ := getState_some_inv h.st hgs
      have htoks : TokensOK ds de consumed
          (if a.bpos - a.bstart > 0 then a.toks ++ [⟨kind, a.pend, a.start, a.bstart, a.cur, a.bpos⟩] else a.toks) := by
        by_cases hp : a.pend = []
        · rw [if_neg (fun hpos => h.pos_iff.mp hpos hp)]
          exact ⟨h.chain, by simpa [hp] using h.flatEq, h.kinds⟩
        · rw [if_pos (h.pos_iff.mpr hp)]
          exact h.push kind hp hk
      exact {
        chain := htoks.chain, flatEq := congrArg (· ++ [c]) htoks.flatEq
        start := h.cur.trans (congrArg List.length htoks.flatEq).symm
        bstart := h.bpos.trans (congrArg blen htoks.flatEq).symm, cur := by simp [h.cur], bpos := by simp [h.bpos, blen_append]
        kinds := htoks.kinds, st := hst, pend := fun _ => by simp }

theorem foldl_tokStep_inv (ds de : List Char) (hde : de ≠ []) (rest consumed : List Char) (a : TAcc)
    (h : TInv ds de consumed a) : TInv ds de (consumed ++ rest) (rest.foldl (tokStep ds de) a) := by
  induction rest generalizing consumed a with
  | nil => simpa using h
  | cons c cs ih =>
    simp only [List.foldl_cons]
    have := ih (consumed ++ [c]) _ (tokStep_inv ds de hde consumed a c h)
    simpa using this

theorem rawTokens_ok (src ds de : List Char) (hde : de ≠ []) : TokensOK ds de src (rawTokens src ds de) := by
  have h := foldl_tokStep_inv ds de hde src [] TAcc.init (tinv_init ds de)
  simp only [List.nil_append] at h
  unfold rawTokens flushToken
  generalize src.foldl (tokStep ds de) TAcc.init = a at h
  by_cases hs : src = []
  · subst hs
    have hp := h.flatEq
    simp only [List.append_eq_nil_iff] at hp
    exact ⟨h.chain, hp.1, h.kinds⟩
  · have hp := h.pend hs
    simp only [hs, ite_false]
    rw [← h.bpos]
    cases hgs : (getState ' ' ds de a.st).1 with
    | none => exact h.push .text hp nofun
    | some kind => exact h.push kind hp (getState_some_inv h.st (Prod.ext hgs rfl)).2

def NoAdjText : List Token → Prop
  | a :: b :: rest => ¬ (a.kind = .text ∧ b.kind = .text) ∧ NoAdjText (b :: rest)
  | _ => True

theorem noAdjText_snoc (l : List Token) (t : Token) :
    NoAdjText (l ++ [t]) ↔ NoAdjText l ∧ ∀ x, l.getLast? = some x → ¬ (x.kind = .text ∧ t.kind = .text) := by
  induction l with
  | nil => simp [NoAdjText]
  | cons a as ih =>
    cases as with
    | nil => simp [NoAdjText]
    | cons b bs =>
      simp only [List.cons_append, NoAdjText, List.getLast?_cons_cons] at ih ⊢
      rw [ih, and_assoc]

theorem mergeStep_inv (ds de : List Char) (src : List Char) (acc : List Token) (t : Token)
    (h : TokensOK ds de src acc) (hn : NoAdjText acc) (ht : ChainFrom [t] src.length (blen src))
    (hk : t.kind = .element → DelimOK ds de t.value) :
    TokensOK ds de (src ++ t.value) (mergeStep acc t) ∧ NoAdjText (mergeStep acc t) := by
  unfold mergeStep
  cases hl : acc.getLast? with
  | none => exact ⟨h.snoc t ht hk, (noAdjText_snoc _ _).2 ⟨hn, by simp [hl]⟩⟩
  | some last =>
    simp only
    by_cases hm : last.kind = .text ∧ t.kind = .text
    · -- `t` is merged into `last`: the chain up to `last`, then one token with both values
      obtain ⟨ini, rfl⟩ := List.getLast?_eq_some_iff.mp hl
      obtain ⟨hc1, l1, l2, l3, -⟩ := (chainFrom_append _ _ _ _).1 h.chain
      obtain ⟨-, -, -, t4, t5, -⟩ := ht
      have hsrc : src = flat ini ++ last.value := by rw [← h.flatEq]; simp
      rw [if_pos hm, List.dropLast_concat]
      have := TokensOK.snoc (ds := ds) (de := de) ⟨hc1, rfl, fun t' ht' => h.kinds t' (by simp [ht'])⟩
        { last with value := last.value ++ t.value, stop := t.stop, bstop := t.bstop }
        ⟨by simpa using l1, by simpa using l2, by simp [l3],
          by rw [t4, hsrc]; simp [Nat.add_assoc], by rw [t5, hsrc]; simp [blen_append, Nat.add_assoc], trivial⟩
        (fun hke => by simp [hm.1] at hke)
      rw [hsrc, List.append_assoc]
      -- the merged token has the kind of `last`
      exact ⟨this, (noAdjText_snoc _ _).2 ((noAdjText_snoc ini last).1 hn)⟩
    · rw [if_neg hm]
      exact ⟨h.snoc t ht hk, (noAdjText_snoc _ _).2 ⟨hn, fun x hx => by rw [hl] at hx; cases hx; exact hm⟩⟩

theorem foldl_mergeStep_inv (ds de : List Char) (rest : List Token) (src : List Char) (acc : List Token)
    (h : TokensOK ds de src acc) (hn : NoAdjText acc) (hc : ChainFrom rest src.length (blen src))
    (hk : ∀ t ∈ rest, t.kind = .element → DelimOK ds de t.value) :
    TokensOK ds de (src ++ flat rest) (rest.foldl mergeStep acc) ∧ NoAdjText (rest.foldl mergeStep acc) := by
  induction rest generalizing src acc with
  | nil => simpa using ⟨h, hn⟩
  | cons t ts ih =>
    obtain ⟨c1, c2, c3, c4, c5, c6⟩ := hc
    obtain ⟨h', hn'⟩ := mergeStep_inv ds de src acc t h hn ⟨c1, c2, c3, c4, c5, trivial⟩ (hk t (by simp))
    have := ih (src ++ t.value) (mergeStep acc t) h' hn'
      (by rw [c4, c5] at c6; simpa [blen_append] using c6) (fun t' ht' => hk t' (by simp [ht']))
    simpa using this

theorem tokenize_ok (src ds de : List Char) (hde : de ≠ []) :
    TokensOK ds de src (tokenize src ds de) ∧ NoAdjText (tokenize src ds de) := by
  have hr := rawTokens_ok src ds de hde
  have := foldl_mergeStep_inv ds de (rawTokens src ds de) [] [] ⟨trivial, rfl, nofun⟩ trivial hr.chain hr.kinds
  rwa [List.nil_append, hr.flatEq] at this

end Chiritori
