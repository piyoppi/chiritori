import Chiritori.Lemmas.Induction
import Chiritori.Lemmas.Parser
import Chiritori.Lemmas.Tokenizer
/-
  The tags of the elements of a forest are among its tokens.
-/
namespace Chiritori
open Spec

theorem elementsOf_mem_flatten (parts : List Part) (el : Element) (st en : Token)
    (h : (el, st, en) ∈ elementsOf parts) : st ∈ flattenParts parts ∧ en ∈ flattenParts parts := by
  induction parts using parts_induction with
  | nil => simp [elementsOf] at h
  | text t rest ih =>
    have := ih (by simpa [elementsOf, elementsOfPart] using h)
    rw [flattenParts_cons_text]
    exact ⟨.tail _ this.1, .tail _ this.2⟩
  | element el' st' en' ch rest ihc ihr =>
    rw [flattenParts_cons_element]
    simp only [elementsOf, elementsOfPart, List.cons_append, List.mem_cons, List.mem_append] at h
    rcases h with h | h | h
    · cases h; simp
    · simp [(ihc h).1, (ihc h).2]
    · simp [(ihr h).1, (ihr h).2]

theorem elementsOfPart_mem_flatten : ∀ (p : Part) (el : Element) (st en : Token),
    (el, st, en) ∈ elementsOfPart p → st ∈ flattenPart p ∧ en ∈ flattenPart p := by
  intro p el st en h
  simpa [flattenParts] using elementsOf_mem_flatten [p] el st en (by simpa [elementsOf] using h)

end Chiritori
