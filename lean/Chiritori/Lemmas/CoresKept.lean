import Chiritori.Lemmas.Embed
/-
  C14 machinery: deletions that are whitespace runs touching a segment boundary never reach into a trimmed core.
-/
namespace Chiritori
open Spec

/-- gaps and cores of a list of segments: leading blanks | core | trailing blanks (with an empty core) -/
def layoutOf : List Bytes → List (Bytes × Bytes)
  | [] => []
  | s :: ss => (trimL s, trimWs s) :: (trimR s, []) :: layoutOf ss

theorem layoutBytes_layoutOf : ∀ (segs : List Bytes), layoutBytes (layoutOf segs) [] = segs.flatten
  | [] => rfl
  | s :: ss => by
    have h := (trimWs_decomp s).1
    simp only [layoutOf, layoutBytes, List.flatten_cons, layoutBytes_layoutOf ss, List.nil_append]
    conv => rhs; rw [h]
    simp [List.append_assoc]

theorem layoutOf_cores : ∀ (segs : List Bytes),
    ((layoutOf segs).map (·.2)).filter (· != []) = (segs.map trimWs).filter (· != [])
  | [] => rfl
  | s :: ss => by
    simp only [layoutOf, List.map_cons, List.filter_cons, layoutOf_cores ss]
    simp

def segEnds : List Bytes → Nat → List Nat
  | [], _ => []
  | s :: ss, off => (off + s.length) :: segEnds ss (off + s.length)

theorem segEnds_ge : ∀ (segs : List Bytes) (off : Nat), ∀ c ∈ segEnds segs off, off ≤ c
  | [], _, c, h => by simp [segEnds] at h
  | s :: ss, off, c, h => by
    simp only [segEnds, List.mem_cons] at h
    rcases h with h | h
    · omega
    · have := segEnds_ge ss (off + s.length) c h; omega

/-- every deleted index lies in a whitespace run of `K` that touches a position at or before `off` or one of `bnds` -/
def Anchored (F : List Rng) (K : Bytes) (bnds : List Nat) (off : Nat) : Prop :=
  ∀ d, inAny F d = true → ∃ a z c, a ≤ d ∧ d < z ∧ a ≤ c ∧ c ≤ z ∧
    (∀ i, a ≤ i → i < z → ∃ x, K[i]? = some x ∧ isWs x = true) ∧ (c ≤ off ∨ c ∈ bnds)

theorem segEnds_head (s : Bytes) (ss : List Bytes) (off : Nat) : off + s.length ∈ segEnds (s :: ss) off := by
  simp [segEnds]

theorem segEnds_tail (s : Bytes) (ss : List Bytes) (off c : Nat) (h : c ∈ segEnds ss (off + s.length)) :
    c ∈ segEnds (s :: ss) off := by
  simp [segEnds, h]

theorem segEnds_prefix (a c : List Bytes) (off : Nat) (h : a ≠ []) :
    off + a.flatten.length ∈ segEnds (a ++ c) off := by
  induction a generalizing off with
  | nil => exact absurd rfl h
  | cons x xs ih =>
    rw [List.flatten_cons, List.length_append, ← Nat.add_assoc]
    cases xs with
    | nil => exact segEnds_head x c off
    | cons y ys => exact segEnds_tail x _ off _ (ih (off + x.length) (by simp))

theorem ws_run_misses_core (p core q : Bytes) (P : Nat) (hP : p.length = P)
    (hhead : ∀ x, core.head? = some x → isWs x = false) (hlast : ∀ x, core.getLast? = some x → isWs x = false)
    (a z c d : Nat) (hws : ∀ i, a ≤ i → i < z → ∃ x, (p ++ (core ++ q))[i]? = some x ∧ isWs x = true)
    (had : a ≤ d) (hdz : d < z) (hac : a ≤ c) (hcz : c ≤ z) (hc : c ≤ P ∨ P + core.length ≤ c)
    (h1 : P ≤ d) (h2 : d < P + core.length) : False := by
  subst hP
  have hat : ∀ k, k < core.length → (p ++ (core ++ q))[p.length + k]? = core[k]? := by
    intro k hk
    rw [List.getElem?_append_right (Nat.le_add_right _ _), Nat.add_sub_cancel_left, List.getElem?_append_left hk]
  have hne : 0 < core.length := by omega
  rcases hc with hc | hc
  · -- the run covers the first byte of the core
    obtain ⟨x, hx, hxw⟩ := hws (p.length + 0) (Nat.le_trans hac hc) (Nat.lt_of_le_of_lt h1 hdz)
    rw [hat 0 hne, ← List.head?_eq_getElem?] at hx
    rw [hhead x hx] at hxw
    cases hxw
  · -- the run covers the last byte of the core
    obtain ⟨x, hx, hxw⟩ := hws (p.length + (core.length - 1)) (by omega) (by omega)
    rw [hat _ (Nat.sub_lt hne Nat.one_pos), ← List.getLast?_eq_getElem?] at hx
    rw [hlast x hx] at hxw
    cases hxw

theorem coresKept_of_anchored (F : List Rng) (K : Bytes) : ∀ (segs : List Bytes) (off : Nat) (pre : Bytes),
    K = pre ++ segs.flatten → pre.length = off → Anchored F K (segEnds segs off) off →
    CoresKept F (layoutOf segs) off := by
  intro segs
  induction segs with
  | nil => intro _ _ _ _ _; trivial
  | cons s ss ih =>
    intro off pre hK hpre ha
    obtain ⟨hs, _, _, hhead, hlast⟩ := trimWs_decomp s
    have hlen := congrArg List.length hs
    simp only [List.length_append] at hlen
    refine ⟨?_, fun i h1 h2 => absurd h2 (Nat.not_lt_of_le h1), ?_⟩
    · intro i hi1 hi2
      cases hF : inAny F i with
      | false => rfl
      | true =>
        exfalso
        obtain ⟨a, z, c, h1, h2, h3, h4, hws, hc⟩ := ha i hF
        rw [hK, List.flatten_cons, hs, List.append_assoc, List.append_assoc, ← List.append_assoc pre] at hws
        -- the run is anchored at or before `off`, or at or behind the end of this segment
        have hc' : c ≤ off + (trimL s).length ∨ off + (trimL s).length + (trimWs s).length ≤ c := by
          rcases hc with hc | hc
          · exact Or.inl (by omega)
          · have hge : off + s.length ≤ c :=
              (List.mem_cons.mp hc).elim (fun e => Nat.le_of_eq e.symm) (segEnds_ge ss _ c)
            exact Or.inr (by omega)
        exact ws_run_misses_core _ _ _ _ (by rw [List.length_append, hpre]) hhead hlast a z c i hws h1 h2 h3 h4 hc'
          hi1 hi2
    · -- the other segments: what was anchored at the end of this one is anchored in front of them
      rw [List.length_nil, Nat.add_zero, Nat.add_assoc, Nat.add_assoc, ← hlen]
      refine ih (off + s.length) (pre ++ s) (by rw [hK, List.flatten_cons, List.append_assoc])
        (by rw [List.length_append, hpre]) fun d hd => ?_
      obtain ⟨a, z, c, h1, h2, h3, h4, hws, hc⟩ := ha d hd
      exact ⟨a, z, c, h1, h2, h3, h4, hws, hc.elim (fun hc => Or.inl (by omega)) fun hc =>
        (List.mem_cons.mp hc).imp Nat.le_of_eq id⟩

/-- the patterns of C14 survive: the trimmed non-empty segments occur in order in the text without `F` -/
theorem occur_of_anchored (F : List Rng) (segs : List Bytes)
    (ha : Anchored F segs.flatten (segEnds segs 0) 0) :
    occurInOrder ((segs.map trimWs).filter (· != [])) (minusFrom segs.flatten 0 F) = true := by
  have hck := coresKept_of_anchored F segs.flatten segs 0 [] (by simp) rfl ha
  have he := embeds_minusFrom F (layoutOf segs) [] 0 hck
  rw [layoutBytes_layoutOf] at he
  have hf := Embeds.filter_nonempty _ _ he
  rw [layoutOf_cores] at hf
  exact occurInOrder_of_embeds _ _ hf

end Chiritori
