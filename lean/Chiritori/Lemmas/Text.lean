import Chiritori.Model.Text
namespace Chiritori

@[simp] theorem charBytes_length (c : Char) : (charBytes c).length = c.utf8Size := by
  have := Char.utf8Size_pos c
  simp [charBytes]; omega

@[simp] theorem bytesOf_nil : bytesOf [] = [] := rfl
@[simp] theorem bytesOf_cons (c : Char) (cs : List Char) : bytesOf (c :: cs) = charBytes c ++ bytesOf cs := rfl
@[simp] theorem blen_nil : blen [] = 0 := rfl
@[simp] theorem blen_cons (c : Char) (cs : List Char) : blen (c :: cs) = c.utf8Size + blen cs := rfl

theorem bytesOf_append (a b : List Char) : bytesOf (a ++ b) = bytesOf a ++ bytesOf b := by
  induction a with
  | nil => rfl
  | cons c cs ih => simp [ih]

theorem blen_append (a b : List Char) : blen (a ++ b) = blen a + blen b := by
  induction a with
  | nil => simp
  | cons c cs ih => simp [ih]; omega

@[simp] theorem bytesOf_length (s : List Char) : (bytesOf s).length = blen s := by
  induction s with
  | nil => rfl
  | cons c cs ih => simp [ih]

theorem lead_mem_bytesOf_iff (c : Char) : ∀ (s : List Char), ABy.lead c ∈ bytesOf s ↔ c ∈ s
  | [] => by simp [bytesOf]
  | d :: s => by
    rw [bytesOf, List.mem_append, lead_mem_bytesOf_iff c s, List.mem_cons]
    simp [charBytes]

theorem charsOf_append (a b : Bytes) : charsOf (a ++ b) = charsOf a ++ charsOf b := by
  induction a with
  | nil => rfl
  | cons x xs ih => cases x <;> simp [charsOf, ih]

theorem charsOf_replicate_cont (n : Nat) : charsOf (List.replicate n .cont) = [] := by
  induction n with
  | zero => rfl
  | succ n ih => simp [List.replicate_succ, charsOf, ih]

@[simp] theorem charsOf_charBytes (c : Char) : charsOf (charBytes c) = [c] := by
  simp [charBytes, charsOf, charsOf_replicate_cont]

@[simp] theorem charsOf_bytesOf (s : List Char) : charsOf (bytesOf s) = s := by
  induction s with
  | nil => rfl
  | cons c cs ih => simp [charsOf_append, ih]

theorem blen_pos_of_ne_nil {s : List Char} (h : s ≠ []) : 0 < blen s := by
  cases s with
  | nil => exact absurd rfl h
  | cons c cs => have := Char.utf8Size_pos c; simp; omega

theorem charBytes_getElem?_cont (c : Char) (i : Nat) (h0 : 0 < i) (h1 : i < c.utf8Size) :
    (charBytes c)[i]? = some .cont := by
  unfold charBytes
  cases i with
  | zero => omega
  | succ j =>
    simp only [List.getElem?_cons_succ]
    rw [List.getElem?_replicate]
    simp; omega

theorem prop_min {P : Nat → Prop} {a b : Nat} (ha : P a) (hb : P b) : P (min a b) := by
  rcases Nat.le_total a b with h | h
  · rwa [Nat.min_eq_left h]
  · rwa [Nat.min_eq_right h]

theorem prop_max {P : Nat → Prop} {a b : Nat} (ha : P a) (hb : P b) : P (max a b) := by
  rcases Nat.le_total a b with h | h
  · rwa [Nat.max_eq_right h]
  · rwa [Nat.max_eq_left h]

theorem lt_of_getElem?_some {α} (l : List α) (i : Nat) (x : α) (h : l[i]? = some x) : i < l.length :=
  (List.getElem?_eq_some_iff.mp h).1

theorem isBoundary_iff (b : Bytes) (i : Nat) :
    isBoundary b i = true ↔ i = b.length ∨ ∃ c, b[i]? = some (.lead c) := by
  unfold isBoundary
  rcases b[i]? with _ | _ | _ <;> simp

theorem isBoundary_of_lead (b : Bytes) (i : Nat) (c : Char) (h : b[i]? = some (.lead c)) : isBoundary b i = true :=
  (isBoundary_iff b i).mpr (Or.inr ⟨c, h⟩)

theorem isBoundary_le (b : Bytes) (i : Nat) (h : isBoundary b i = true) : i ≤ b.length := by
  rcases (isBoundary_iff b i).mp h with h | ⟨c, h⟩
  · omega
  · exact Nat.le_of_lt (lt_of_getElem?_some _ _ _ h)

theorem isBoundary_eq_false_iff (b : Bytes) (i : Nat) (h : i ≤ b.length) :
    isBoundary b i = false ↔ b[i]? = some .cont := by
  unfold isBoundary
  cases hx : b[i]? with
  | none => simp [Nat.le_antisymm h (List.getElem?_eq_none_iff.mp hx)]
  | some x =>
    have := Nat.ne_of_lt (lt_of_getElem?_some _ _ _ hx)
    cases x <;> simp [this]

theorem isBoundary_append_right (a b : Bytes) (i : Nat) (h : a.length ≤ i) :
    isBoundary (a ++ b) i = isBoundary b (i - a.length) := by
  unfold isBoundary
  rw [List.getElem?_append_right h, List.length_append]
  congr 1
  rw [Bool.eq_iff_iff, beq_iff_eq, beq_iff_eq, Nat.sub_eq_iff_eq_add h, Nat.add_comm]

theorem byteIs_iff (b : Bytes) (i : Nat) (c : Char) : byteIs b i c = true ↔ b[i]? = some (.lead c) := by
  unfold byteIs
  rcases b[i]? with _ | _ | _ <;> simp

theorem split_at_boundary (s : List Char) (i : Nat) (hi : i ≤ blen s) (hb : isBoundary (bytesOf s) i = true) :
    ∃ s1 s2, s = s1 ++ s2 ∧ blen s1 = i ∧ (bytesOf s).take i = bytesOf s1 ∧ (bytesOf s).drop i = bytesOf s2 := by
  induction s generalizing i with
  | nil =>
    obtain rfl : i = 0 := Nat.le_zero.mp hi
    exact ⟨[], [], rfl, rfl, rfl, rfl⟩
  | cons c cs ih =>
    rcases Nat.eq_zero_or_pos i with rfl | h0
    · exact ⟨[], c :: cs, rfl, rfl, rfl, rfl⟩
    · have hge : (charBytes c).length ≤ i := by
        -- a position inside the first character holds a continuation byte
        apply Nat.le_of_not_lt
        intro hlt
        rcases (isBoundary_iff _ _).mp hb with h | ⟨d, h⟩
        · rw [h, bytesOf_cons, List.length_append] at hlt
          exact Nat.not_lt_of_le (Nat.le_add_right _ _) hlt
        · rw [bytesOf_cons, List.getElem?_append_left hlt,
            charBytes_getElem?_cont c i h0 (charBytes_length c ▸ hlt)] at h
          cases h
      obtain ⟨k, rfl⟩ := Nat.exists_eq_add_of_le hge
      rw [bytesOf_cons, isBoundary_append_right _ _ _ (Nat.le_add_right _ _), Nat.add_sub_cancel_left] at hb
      rw [charBytes_length] at hi
      obtain ⟨s1, s2, rfl, rfl, ht, hd⟩ := ih k (Nat.le_of_add_le_add_left hi) hb
      refine ⟨c :: s1, s2, rfl, ?_, ?_, ?_⟩
      · rw [blen_cons, charBytes_length]
      · rw [bytesOf_cons, List.take_length_add_append, ht]
        rfl
      · rw [bytesOf_cons, List.drop_length_add_append, hd]

theorem isBoundary_blen_prefix (a b : List Char) : isBoundary (bytesOf (a ++ b)) (blen a) = true := by
  rw [bytesOf_append, isBoundary_append_right _ _ _ (by simp), bytesOf_length, Nat.sub_self]
  cases b with
  | nil => rfl
  | cons c cs => rfl

theorem bind_eq_ok_iff {α β : Type} (x : R α) (f : α → R β) (y : β) :
    x.bind f = .ok y ↔ ∃ a, x = .ok a ∧ f a = .ok y := by
  cases x <;> simp [Except.bind]

@[simp] theorem subU_ok (a b : Nat) (h : b ≤ a) : subU a b = .ok (a - b) := if_pos h

theorem validRange_iff (b : Bytes) (s e : Nat) :
    validRange b s e = true ↔ s ≤ e ∧ e ≤ b.length ∧ isBoundary b s = true ∧ isBoundary b e = true := by
  simp only [validRange, Bool.and_eq_true, decide_eq_true_eq, and_assoc]

theorem deleteRange_eq_ok_iff (b : Bytes) (s e : Nat) (c : Bytes) :
    deleteRange b s e = .ok c ↔ validRange b s e = true ∧ c = b.take s ++ b.drop e := by
  unfold deleteRange
  split <;> simp [*, eq_comm]

theorem deleteRange_wellFormed (s : List Char) (i j : Nat) (out : Bytes)
    (h : deleteRange (bytesOf s) i j = .ok out) : ∃ s', out = bytesOf s' ∧ blen s' = blen s - (j - i) := by
  obtain ⟨hv, rfl⟩ := (deleteRange_eq_ok_iff _ _ _ _).mp h
  obtain ⟨hij, hj, hbi, hbj⟩ := (validRange_iff _ _ _).mp hv
  rw [bytesOf_length] at hj
  obtain ⟨a1, a2, _, hal, hat, _⟩ := split_at_boundary s i (Nat.le_trans hij hj) hbi
  obtain ⟨b1, b2, hb, hbl, _, hbd⟩ := split_at_boundary s j hj hbj
  refine ⟨a1 ++ b2, by rw [hat, hbd, bytesOf_append], ?_⟩
  -- `blen s = j + blen b2` and `j = i + d`
  obtain ⟨d, rfl⟩ := Nat.exists_eq_add_of_le hij
  rw [blen_append, hal, hb, blen_append, hbl, Nat.add_sub_cancel_left, Nat.add_right_comm, Nat.add_sub_cancel]

end Chiritori
