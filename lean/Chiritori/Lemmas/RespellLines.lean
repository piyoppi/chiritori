import Chiritori.Lemmas.Respell
import Chiritori.Lemmas.ItemLines
import Chiritori.Lemmas.PruneBytes
/-
  Line numbers under a change of spelling: corresponding tokens that contain, one by one, the same number of line
  breaks start and end behind the same number of line breaks; such are the tags of one piece list under two delimiter
  pairs that contain no line break.
-/
namespace Chiritori
open Spec

def SameLines (b b' : Bytes) (t u : Token) : Prop :=
  nlBefore b t.bstart = nlBefore b' u.bstart ∧ nlBefore b t.bstop = nlBefore b' u.bstop ∧
    nlBefore b (t.bstop - 1) = nlBefore b' (u.bstop - 1)

theorem count_bytesOf (v : List Char) : (bytesOf v).count NL = v.count '\n' := by
  rw [← count_charsOf, charsOf_bytesOf]

theorem count_nl_free (v : List Char) (h : ∀ c ∈ v, c ≠ '\n') : v.count '\n' = 0 := by
  rw [List.count_eq_zero]
  intro hm
  exact h _ hm rfl

theorem count_dropLast (x : Bytes) (y : ABy) (h : x.getLast? = some y) :
    x.dropLast.count NL = x.count NL - (if y = NL then 1 else 0) := by
  rcases List.eq_nil_or_concat x with hx | ⟨L, z, hx⟩
  · subst hx; simp at h
  · subst hx
    simp only [List.concat_eq_append] at h ⊢
    rw [List.getLast?_concat] at h
    injection h with h
    subst h
    rw [List.dropLast_concat, List.count_append]
    by_cases hz : z = NL
    · subst hz; simp
    · simp [hz, List.count_cons_of_ne hz]

theorem nlBefore_inside (pre x post : Bytes) (n : Nat) (h : n ≤ x.length) :
    nlBefore (pre ++ (x ++ post)) (pre.length + n) = pre.count NL + (x.take n).count NL := by
  unfold nlBefore
  rw [List.take_append, List.take_of_length_le (Nat.le_add_right _ _), Nat.add_sub_cancel_left,
    List.take_append_of_le_length h, List.count_append]

/-- as many line breaks, also when the last byte is left out -/
def SameNL (t u : Token) : Prop :=
  (bytesOf t.value).count NL = (bytesOf u.value).count NL ∧
    (bytesOf t.value).dropLast.count NL = (bytesOf u.value).dropLast.count NL

theorem sameLines_at (pre pre' x x' post post' : Bytes) (t u : Token) (hx : 0 < x.length) (hx' : 0 < x'.length)
    (hs : t.bstart = pre.length) (he : t.bstop = pre.length + x.length)
    (hs' : u.bstart = pre'.length) (he' : u.bstop = pre'.length + x'.length)
    (hpre : pre.count NL = pre'.count NL) (hc : x.count NL = x'.count NL)
    (hd : x.dropLast.count NL = x'.dropLast.count NL) :
    SameLines (pre ++ (x ++ post)) (pre' ++ (x' ++ post')) t u := by
  have e1 : pre.length + x.length - 1 = pre.length + (x.length - 1) := Nat.add_sub_assoc hx _
  have e2 : pre'.length + x'.length - 1 = pre'.length + (x'.length - 1) := Nat.add_sub_assoc hx' _
  refine ⟨?_, ?_, ?_⟩
  · rw [hs, hs']
    have h1 := nlBefore_inside pre x post 0 (Nat.zero_le _)
    have h2 := nlBefore_inside pre' x' post' 0 (Nat.zero_le _)
    rw [Nat.add_zero] at h1 h2
    rw [h1, h2, hpre]
    rfl
  · rw [he, he', nlBefore_inside pre x post _ (Nat.le_refl _), nlBefore_inside pre' x' post' _ (Nat.le_refl _),
      List.take_length, List.take_length, hpre, hc]
  · rw [he, he', e1, e2, nlBefore_inside pre x post _ (Nat.sub_le _ _), nlBefore_inside pre' x' post' _ (Nat.sub_le _ _),
      ← List.dropLast_eq_take, ← List.dropLast_eq_take, hpre, hd]

theorem chain_sameLines {T T' : List Token} (h : PW SameNL T T') :
    ∀ (s off s' off' : Nat) (pre pre' post post' : Bytes), ChainFrom T s off → ChainFrom T' s' off' →
    pre.length = off → pre'.length = off' → pre.count NL = pre'.count NL →
    PW (SameLines (pre ++ (bytesOf (flat T) ++ post)) (pre' ++ (bytesOf (flat T') ++ post'))) T T' := by
  induction h with
  | nil => intros; exact .nil
  | @cons t u ts us htu _ ih =>
    intro s off s' off' pre pre' post post' hc hc' hp hp' hcnt
    obtain ⟨_, c2, c3, _, c5, c6⟩ := hc
    obtain ⟨_, d2, d3, _, d5, d6⟩ := hc'
    have hl : (bytesOf t.value).length = blen t.value := bytesOf_length _
    have hl' : (bytesOf u.value).length = blen u.value := bytesOf_length _
    rw [flat_cons, flat_cons, bytesOf_append, bytesOf_append, List.append_assoc, List.append_assoc]
    refine .cons ?_ ?_
    · exact sameLines_at pre pre' _ _ _ _ t u (by rw [hl]; exact blen_pos_of_ne_nil c3)
        (by rw [hl']; exact blen_pos_of_ne_nil d3) (by rw [c2, hp]) (by rw [c5, hp, hl]) (by rw [d2, hp']) (by rw [d5, hp', hl'])
        hcnt htu.1 htu.2
    · have := ih t.stop t.bstop u.stop u.bstop (pre ++ bytesOf t.value) (pre' ++ bytesOf u.value) post post' c6 d6
        (by rw [List.length_append, hl, hp, c5]) (by rw [List.length_append, hl', hp', d5])
        (by rw [List.count_append, List.count_append, hcnt, htu.1])
      rwa [List.append_assoc, List.append_assoc] at this

theorem count_wrap (ds de body : List Char) (hnl : ∀ c ∈ ds ++ de, c ≠ '\n') :
    (bytesOf (ds ++ body ++ de)).count NL = body.count '\n' := by
  rw [count_bytesOf, List.count_append, List.count_append, count_nl_free ds (fun c hc => hnl c (by simp [hc])),
    count_nl_free de (fun c hc => hnl c (by simp [hc])), Nat.zero_add, Nat.add_zero]

theorem count_wrap_dropLast (ds de body : List Char) (hnl : ∀ c ∈ ds ++ de, c ≠ '\n') (hde : de ≠ []) :
    (bytesOf (ds ++ body ++ de)).dropLast.count NL = body.count '\n' := by
  obtain ⟨w, c, hwc⟩ : ∃ w c, de = w ++ [c] := ⟨_, _, (List.dropLast_concat_getLast hde).symm⟩
  -- the last byte is that of the end delimiter, not a line break
  obtain ⟨y, hy, hyc⟩ := bytesOf_last (ds ++ body ++ w) c
  have hyn : y ≠ NL := by
    rcases hyc with rfl | rfl
    · decide
    · intro hh
      injection hh with hh
      exact hnl c (by simp [hwc]) hh
  rw [List.append_assoc (ds ++ body), ← hwc] at hy
  rw [count_dropLast _ y hy, if_neg hyn, count_wrap ds de body hnl]
  rfl

theorem sameNL_wrap (ds de ds' de' body body' : List Char) (hnl : ∀ c ∈ ds ++ de, c ≠ '\n')
    (hnl' : ∀ c ∈ ds' ++ de', c ≠ '\n') (hde : de ≠ []) (hde' : de' ≠ []) (hb : body.count '\n' = body'.count '\n')
    (t u : Token) (hv : t.value = ds ++ body ++ de) (hv' : u.value = ds' ++ body' ++ de') : SameNL t u := by
  unfold SameNL
  rw [hv, hv', count_wrap ds de body hnl, count_wrap ds' de' body' hnl', count_wrap_dropLast ds de body hnl hde,
    count_wrap_dropLast ds' de' body' hnl' hde', hb]
  exact ⟨rfl, rfl⟩

theorem sameNL_x (ds de ds' de' : List Char) (hnl : ∀ c ∈ ds ++ de, c ≠ '\n') (hnl' : ∀ c ∈ ds' ++ de', c ≠ '\n')
    (hde : de ≠ []) (hde' : de' ≠ []) (t u : Token) (h : TokX0 ds de ds' de' t u) : SameNL t u := by
  obtain ⟨_, h | ⟨_, body, _, hv, hv', _, _⟩⟩ := h
  · unfold SameNL
    rw [h.2]
    exact ⟨rfl, rfl⟩
  · exact sameNL_wrap ds de ds' de' body body hnl hnl' hde hde' rfl t u hv hv'

theorem elements_ordered : ∀ (parts : List Part) (lo hi : Nat), BSpan (flattenParts parts) lo hi →
    ∀ e ∈ elementsOf parts, e.2.1.bstart < e.2.2.bstop := by
  intro parts
  induction parts using parts_induction with
  | nil => intro _ _ _ e he; cases he
  | text t rest ih =>
    intro lo hi hs e he
    exact ih t.bstop hi hs.2.2 e he
  | element el st en ch rest ihc ih =>
    intro lo hi hs e he
    simp only [flattenParts, flattenPart, List.cons_append, BSpan, BSpan_append] at hs
    obtain ⟨_, hst, mid, ⟨m, hch, hen1, hen2, _⟩, hrest⟩ := hs
    have hm := BSpan_le _ st.bstop m hch
    simp only [elementsOf, elementsOfPart, List.cons_append, List.mem_cons, List.mem_append] at he
    rcases he with rfl | he | he
    · exact Nat.lt_trans (Nat.lt_of_lt_of_le hst (hen1 ▸ hm)) hen2
    · exact ihc st.bstop m hch e he
    · exact ih mid hi hrest e he

theorem elementsPart_ordered : ∀ (p : Part) (lo hi : Nat), BSpan (flattenPart p) lo hi →
    ∀ e ∈ elementsOfPart p, e.2.1.bstart < e.2.2.bstop := by
  intro p lo hi hs e he
  exact elements_ordered [p] lo hi (by simpa only [flattenParts, List.append_nil] using hs) e
    (by simpa only [elementsOf, List.append_nil] using he)

end Chiritori
