import Chiritori.Lemmas.FormatWs
/-
  Locality of the whitespace tidying at a seam.

  Every seam formatter (`IndentRemover`, `EmptyLineRemover`, `PrevLineBreakRemover`, `NextLineBreakRemover`) looks at
  the text only through the bytes in front of the seam, read backwards (`ctxL`), and the bytes behind it (`ctxR`);
  its range is `[pos - kl, pos + kr)` with `kl`, `kr` computed from those two lists alone (`formatBlock_rel`).
  And the two numbers depend on the lists only up to the first byte that is not whitespace: two contexts that
  agree on their whitespace and then both stop (or both end) give the same numbers (`relHull_agree`).
-/
namespace Chiritori

/-- backward indentation scan: the number of bytes stepped over when a line break is reached -/
def indentRel : Bytes → Option Nat
  | [] => none
  | .cont :: rest => (indentRel rest).map (· + 1)
  | .lead c :: rest =>
    if c = ' ' ∨ c = '\t' then (indentRel rest).map (· + 1) else if c = '\n' then some 0 else none

/-- backward line-break scan (pausing): index of the line break found; the last byte of the list is never examined -/
def prevRel : Bytes → Option Nat
  | [] => none
  | [_] => none
  | x :: y :: rest =>
    match lbCheck (some x) with
    | .skip => (prevRel (y :: rest)).map (· + 1)
    | .found => some 0
    | .none => none

/-- forward line-break scan (pausing): index of the line break found -/
def nextRel : Bytes → Option Nat
  | [] => none
  | x :: rest =>
    match lbCheck (some x) with
    | .skip => (nextRel rest).map (· + 1)
    | .found => some 0
    | .none => none

/-! All three are the pausing scan `scanNL true` of `Lemmas/Finders.lean`. -/

theorem nextRel_eq : ∀ x : Bytes, nextRel x = scanNL true x
  | [] => rfl
  | x :: rest => by
    simp only [nextRel, scanNL, nextRel_eq rest]
    cases lbCheck (some x) <;> rfl

theorem indentRel_eq : ∀ x : Bytes, indentRel x = scanNL true x
  | [] => rfl
  | .cont :: rest => by simp only [indentRel, scanNL, lbCheck, indentRel_eq rest]
  | .lead c :: rest => by
    simp only [indentRel, scanNL, lbCheck, indentRel_eq rest]
    by_cases h1 : c = ' ' ∨ c = '\t'
    · simp only [h1, if_true]
    · by_cases h2 : c = '\n' <;> simp [h1, h2]

theorem prevRel_eq : ∀ x : Bytes, prevRel x = scanNL true x.dropLast
  | [] => rfl
  | [_] => rfl
  | x :: y :: rest => by
    simp only [prevRel, List.dropLast_cons_cons, scanNL, prevRel_eq (y :: rest)]
    cases lbCheck (some x) <;> rfl

theorem prevRel_lt (x : Bytes) (k : Nat) (h : prevRel x = some k) : k + 1 < x.length ∧ x[k]? = some NL := by
  rw [prevRel_eq] at h
  obtain ⟨h1, h2⟩ := scanNL_lt _ _ _ h
  rw [List.length_dropLast] at h1
  rw [List.getElem?_dropLast, if_pos h1] at h2
  exact ⟨by omega, h2⟩

theorem nextRel_lt : ∀ (x : Bytes) (k : Nat), nextRel x = some k → k < x.length ∧ x[k]? = some NL :=
  fun x k h => scanNL_lt true x k (nextRel_eq x ▸ h)

theorem indentRel_le (x : Bytes) (k : Nat) (h : indentRel x = some k) : k < x.length :=
  (scanNL_lt true x k (indentRel_eq x ▸ h)).1

def ctxL (b : Bytes) (pos : Nat) : Bytes := (b.take pos).reverse
def ctxR (b : Bytes) (pos : Nat) : Bytes := b.drop pos

theorem ctxL_length (b : Bytes) (pos : Nat) (h : pos ≤ b.length) : (ctxL b pos).length = pos := by
  simp [ctxL, Nat.min_eq_left h]

theorem ctxL_drop (b : Bytes) (pos k : Nat) (h : pos ≤ b.length) :
    (ctxL b pos).drop (k + 1) = ctxL b (pos - 1 - k) := by
  unfold ctxL
  rw [List.drop_reverse, List.length_take, Nat.min_eq_left h, List.take_take, Nat.min_eq_left (Nat.sub_le _ _),
    Nat.sub_add_eq, Nat.sub_right_comm]

theorem findPrevLB_ctx (b : Bytes) (pos : Nat) (h : pos ≤ b.length) :
    findPrevLB b pos true = (prevRel (ctxL b pos)).map (fun k => pos - 1 - k) := by
  rw [findPrevLB_eq b pos true h, prevRel_eq, List.dropLast_eq_take, ctxL_length b pos h]
  rfl

theorem findNextLB_ctx (b : Bytes) (pos : Nat) :
    findNextLB b pos true = if pos = 0 then none else (nextRel (ctxR b pos)).map (fun k => pos + k) := by
  rw [findNextLB_eq, nextRel_eq]
  rfl

/-- two line breaks backwards, with blanks only between and in front: how far behind the seam the range starts -/
def prev2Rel (l : Bytes) : Option Nat :=
  (prevRel l).bind fun k => (prevRel (l.drop (k + 1))).map fun k2 => k + k2 + 1

/-- two line breaks forwards: how far the range reaches -/
def next2Rel (l r : Bytes) : Option Nat :=
  if l = [] then none else (nextRel r).bind fun k => (nextRel (r.drop (k + 1))).map fun k2 => k + 1 + k2

theorem prev2Rel_lt (l : Bytes) (kk : Nat) (h : prev2Rel l = some kk) : kk + 1 < l.length := by
  obtain ⟨k, _, hk⟩ := Option.bind_eq_some_iff.mp h
  obtain ⟨k2, hk2, rfl⟩ := Option.map_eq_some_iff.mp hk
  have g := (prevRel_lt _ k2 hk2).1
  rw [List.length_drop] at g
  omega

theorem prev2_ctx (b : Bytes) (pos : Nat) (h : pos ≤ b.length) :
    ((findPrevLB b pos true).bind fun p => findPrevLB b p true) = (prev2Rel (ctxL b pos)).map (fun kk => pos - 1 - kk) := by
  rw [findPrevLB_ctx b pos h]
  unfold prev2Rel
  cases hk : prevRel (ctxL b pos) with
  | none => rfl
  | some k =>
    have hp : pos - 1 - k ≤ b.length := Nat.le_trans (Nat.sub_le _ _) (Nat.le_trans (Nat.sub_le _ _) h)
    simp only [Option.map_some, Option.bind_some]
    rw [findPrevLB_ctx b (pos - 1 - k) hp, ctxL_drop b pos k h, Option.map_map]
    cases hk2 : prevRel (ctxL b (pos - 1 - k)) with
    | none => rfl
    | some k2 =>
      simp only [Option.map_some, Function.comp]
      rw [Nat.sub_sub _ k, Nat.sub_sub _ (k + 1), Nat.add_right_comm]

theorem next2_ctx (b : Bytes) (pos : Nat) (h : pos ≤ b.length) :
    ((findNextLB b pos true).bind fun p => findNextLB b (p + 1) true) =
      (next2Rel (ctxL b pos) (ctxR b pos)).map (fun kk => pos + kk) := by
  rw [findNextLB_ctx b pos]
  unfold next2Rel
  by_cases h0 : pos = 0
  · subst h0; simp [ctxL]
  · have hl : ctxL b pos ≠ [] := fun hh => h0 (by rw [← ctxL_length b pos h, hh]; rfl)
    rw [if_neg h0, if_neg hl]
    cases hk : nextRel (ctxR b pos) with
    | none => rfl
    | some k =>
      simp only [Option.map_some, Option.bind_some]
      rw [findNextLB_ctx b (pos + k + 1), if_neg (Nat.succ_ne_zero _), Option.map_map]
      have : ctxR b (pos + k + 1) = (ctxR b pos).drop (k + 1) := by
        simp only [ctxR, List.drop_drop, Nat.add_assoc]
      rw [this]
      cases hk2 : nextRel ((ctxR b pos).drop (k + 1)) with
      | none => rfl
      | some k2 => simp only [Option.map_some, Function.comp, Nat.add_assoc]

theorem ctxR_head (b : Bytes) (pos : Nat) : (ctxR b pos).head? = b[pos]? := by
  simp [ctxR, List.head?_drop]

def relIndent (l r : Bytes) : Nat :=
  if r.head? = some NL then (indentRel l).getD 0 else 0

def relPrev (l : Bytes) : Nat := (prev2Rel l).getD 0

def relNext (l r : Bytes) : Nat := (next2Rel l r).getD 0

/-- `EmptyLineRemover`: one byte (the line break at the seam), or nothing; an error if the seam is not a boundary -/
def relEmpty (l r : Bytes) : R Nat :=
  match r.head? with
  | some .cont => .error .explicit
  | some (.lead c) =>
    if c = '\n' then
      (if (next2Rel l r).isNone ∧ (prev2Rel l).isNone then .ok 1 else .ok 0)
    else .ok 0
  | none => .ok 0

/-- the hull of the four ranges, relative to the seam: bytes in front, bytes behind -/
def relHull (l r : Bytes) : R (Nat × Nat) :=
  match relEmpty l r with
  | .error e => .error e
  | .ok ke => .ok (max (relIndent l r) (relPrev l), max ke (relNext l r))

theorem fmtIndent_rel (b : Bytes) (pos : Nat) :
    fmtIndent b pos = .ok (pos - relIndent (ctxL b pos) (ctxR b pos), pos) := by
  rw [fmtIndent_eq, relIndent, ctxR_head, indentRel_eq, indentScan_eq, ctxL]
  split
  · cases scanNL true (b.take pos).reverse <;> rfl
  · rfl

theorem fmtPrev_rel (b : Bytes) (pos : Nat) (h : pos ≤ b.length) :
    fmtPrev b pos = .ok (pos - relPrev (ctxL b pos), pos) := by
  unfold fmtPrev relPrev
  rw [prev2_ctx b pos h]
  cases hk : prev2Rel (ctxL b pos) with
  | none => rfl
  | some kk =>
    have hb := prev2Rel_lt _ kk hk
    rw [ctxL_length b pos h] at hb
    simp only [Option.map_some, Option.getD_some]
    congr 2; omega

theorem fmtNext_rel (b : Bytes) (pos : Nat) (h : pos ≤ b.length) :
    fmtNext b pos = .ok (pos, pos + relNext (ctxL b pos) (ctxR b pos)) := by
  unfold fmtNext relNext
  rw [next2_ctx b pos h]
  cases next2Rel (ctxL b pos) (ctxR b pos) <;> rfl

theorem relEmpty_eq (l r : Bytes) :
    relEmpty l r =
      if r.head? = some .cont then .error .explicit
      else if r.head? = some NL then (if (next2Rel l r).isNone ∧ (prev2Rel l).isNone then .ok 1 else .ok 0)
      else .ok 0 := by
  unfold relEmpty
  cases r.head? with
  | none => rfl
  | some x =>
    cases x with
    | cont => rfl
    | lead c => by_cases hc : c = '\n' <;> simp [hc]

theorem fmtEmpty_rel (b : Bytes) (pos : Nat) (h : pos ≤ b.length) :
    fmtEmpty b pos = (relEmpty (ctxL b pos) (ctxR b pos)).map (fun ke => (pos, pos + ke)) := by
  rw [relEmpty_eq, ctxR_head, fmtEmpty, next2_ctx b pos h, prev2_ctx b pos h]
  simp only [Option.isNone_map]
  by_cases hc : b[pos]? = some .cont
  · rw [if_pos hc, (isBoundary_eq_false_iff b pos h).mpr hc]
    rfl
  · rw [if_neg hc, Bool.of_not_eq_false (mt (isBoundary_eq_false_iff b pos h).mp hc)]
    by_cases hn : b[pos]? = some NL
    · rw [if_pos hn, (byteIs_iff b pos _).mpr hn]
      simp only [Bool.not_true, Bool.false_eq_true, if_false]
      split <;> rfl
    · rw [if_neg hn, Bool.of_not_eq_true (mt (byteIs_iff b pos _).mp hn)]
      rfl

theorem formatBlock_cons_rel (b : Bytes) (pos : Nat) (f : Bytes → Nat → R Rng') (fs : List (Bytes → Nat → R Rng'))
    (l r L R : Nat) (hf : f b pos = .ok (pos - l, pos + r)) :
    formatBlock b pos (f :: fs) (pos - L, pos + R) = formatBlock b pos fs (pos - max l L, pos + max r R) := by
  rw [formatBlock_cons, hf]
  simp only [Except.bind]
  rw [Nat.sub_min_sub_left, Nat.add_max_add_left]

/-- every seam formatter, and their hull, is a function of the two contexts -/
theorem formatBlock_rel (b : Bytes) (pos : Nat) (h : pos ≤ b.length) :
    formatBlock b pos seamFormatters (pos, pos) =
      (relHull (ctxL b pos) (ctxR b pos)).map (fun k => (pos - k.1, pos + k.2)) := by
  have hE := fmtEmpty_rel b pos h
  unfold seamFormatters relHull
  show formatBlock b pos _ (pos - 0, pos + 0) = _
  rw [formatBlock_cons_rel b pos fmtIndent _ _ 0 0 0 (fmtIndent_rel b pos)]
  cases he : relEmpty (ctxL b pos) (ctxR b pos) with
  | error e => rw [he] at hE; rw [formatBlock_cons, hE]; rfl
  | ok ke =>
    rw [he] at hE
    rw [formatBlock_cons_rel b pos fmtEmpty _ 0 ke _ _ hE, formatBlock_cons_rel b pos fmtPrev _ _ 0 _ _ (fmtPrev_rel b pos h),
      formatBlock_cons_rel b pos fmtNext _ 0 _ _ _ (fmtNext_rel b pos h), formatBlock_nil]
    simp only [Except.map, Nat.max_zero, Nat.zero_max]
    rw [Nat.max_comm (relPrev _), Nat.max_comm (relNext _ _)]

/-- a byte at which every pausing scan gives up -/
def isStopB (x : ABy) : Prop := ∃ c, x = .lead c ∧ c ≠ ' ' ∧ c ≠ '\t' ∧ c ≠ '\n'

theorem isStopB_iff (x : ABy) : isStopB x ↔ isStopByte x := Iff.rfl

def isWsB (x : ABy) : Prop := x = .lead ' ' ∨ x = .lead '\t' ∨ x = NL

/-- left contexts that agree on their whitespace and then both end, or both reach a character that is not
    whitespace (possibly over its continuation bytes) -/
def AgreeL (x y : Bytes) : Prop :=
  ∃ w tx ty, x = w ++ tx ∧ y = w ++ ty ∧ (∀ z ∈ w, isWsB z) ∧
    ((tx = [] ∧ ty = []) ∨
     ((∃ cs s rest, tx = cs ++ s :: rest ∧ (∀ z ∈ cs, z = .cont) ∧ isStopB s) ∧
      (∃ cs s rest, ty = cs ++ s :: rest ∧ (∀ z ∈ cs, z = .cont) ∧ isStopB s)))

/-- right contexts: the same, the stopping character standing directly behind the whitespace -/
def AgreeR (x y : Bytes) : Prop :=
  ∃ w tx ty, x = w ++ tx ∧ y = w ++ ty ∧ (∀ z ∈ w, isWsB z) ∧
    ((tx = [] ∧ ty = []) ∨ ((∃ s rest, tx = s :: rest ∧ isStopB s) ∧ (∃ s rest, ty = s :: rest ∧ isStopB s)))

theorem lbCheck_cont : lbCheck (some .cont) = .skip := rfl

theorem scanNL_stopped (cs tail : Bytes) (hc : ∀ z ∈ cs, z = .cont)
    (ht : tail = [] ∨ ∃ s rest, tail = s :: rest ∧ isStopB s) : scanNL true (cs ++ tail) = none := by
  induction cs with
  | nil =>
    rcases ht with rfl | ⟨s, rest, rfl, hs⟩
    · rfl
    · simp only [List.nil_append, scanNL, lbCheck_stop s ((isStopB_iff s).mp hs)]
      rfl
  | cons z cs ih =>
    obtain rfl : z = .cont := hc z (by simp)
    simp only [List.cons_append, scanNL, lbCheck_cont, ih (fun z hz => hc z (by simp [hz]))]
    rfl

theorem scanNL_tailL (t : Bytes) (ht : ∃ cs s rest, t = cs ++ s :: rest ∧ (∀ z ∈ cs, z = .cont) ∧ isStopB s) :
    scanNL true t = none ∧ scanNL true t.dropLast = none := by
  obtain ⟨cs, s, rest, rfl, hc, hs⟩ := ht
  refine ⟨scanNL_stopped cs _ hc (Or.inr ⟨s, rest, rfl, hs⟩), ?_⟩
  rw [List.dropLast_append_of_ne_nil (by simp)]
  cases rest with
  | nil => exact scanNL_stopped cs _ hc (Or.inl rfl)
  | cons y ys => exact scanNL_stopped cs _ hc (Or.inr ⟨s, _, List.dropLast_cons_cons, hs⟩)

theorem scanNL_ws (w t t' : Bytes) (hw : ∀ z ∈ w, isWsB z) (h1 : scanNL true t = none) (h2 : scanNL true t' = none) :
    scanNL true (w ++ t) = scanNL true (w ++ t') ∧ ∀ k, scanNL true (w ++ t) = some k → k < w.length := by
  induction w with
  | nil => simp [h1, h2]
  | cons z w ih =>
    obtain ⟨ih1, ih2⟩ := ih (fun z hz => hw z (by simp [hz]))
    simp only [List.cons_append, scanNL, List.length_cons]
    rcases hw z (by simp) with rfl | rfl | rfl
    · refine ⟨by rw [ih1], fun k hk => ?_⟩
      obtain ⟨k', hk', rfl⟩ := Option.map_eq_some_iff.mp hk
      exact Nat.succ_lt_succ (ih2 k' hk')
    · refine ⟨by rw [ih1], fun k hk => ?_⟩
      obtain ⟨k', hk', rfl⟩ := Option.map_eq_some_iff.mp hk
      exact Nat.succ_lt_succ (ih2 k' hk')
    · exact ⟨rfl, fun k hk => by cases hk; exact Nat.succ_pos _⟩

theorem indentRel_agreeL (x y : Bytes) (h : AgreeL x y) : indentRel x = indentRel y := by
  obtain ⟨w, tx, ty, rfl, rfl, hw, ht⟩ := h
  rw [indentRel_eq, indentRel_eq]
  rcases ht with ⟨rfl, rfl⟩ | ⟨hx, hy⟩
  · rfl
  · exact (scanNL_ws w tx ty hw (scanNL_tailL tx hx).1 (scanNL_tailL ty hy).1).1

theorem prevRel_agreeL (x y : Bytes) (h : AgreeL x y) :
    prevRel x = prevRel y ∧ ∀ k, prevRel x = some k → AgreeL (x.drop (k + 1)) (y.drop (k + 1)) := by
  obtain ⟨w, tx, ty, rfl, rfl, hw, ht⟩ := h
  rcases ht with ⟨rfl, rfl⟩ | ⟨hx, hy⟩
  · refine ⟨rfl, ?_⟩
    intro k hk
    obtain ⟨g1, _⟩ := prevRel_lt _ k hk
    simp only [List.append_nil] at g1 ⊢
    exact ⟨w.drop (k + 1), [], [], by simp, by simp, fun z hz => hw z (List.mem_of_mem_drop hz), Or.inl ⟨rfl, rfl⟩⟩
  · have nx : tx ≠ [] := by obtain ⟨cs, s, rest, rfl, _⟩ := hx; simp
    have ny : ty ≠ [] := by obtain ⟨cs, s, rest, rfl, _⟩ := hy; simp
    rw [prevRel_eq, prevRel_eq, List.dropLast_append_of_ne_nil nx, List.dropLast_append_of_ne_nil ny]
    obtain ⟨e1, e2⟩ := scanNL_ws w tx.dropLast ty.dropLast hw (scanNL_tailL tx hx).2 (scanNL_tailL ty hy).2
    refine ⟨e1, fun k hk => ?_⟩
    have hkw := e2 k hk
    exact ⟨w.drop (k + 1), tx, ty, List.drop_append_of_le_length (by omega), List.drop_append_of_le_length (by omega),
      fun z hz => hw z (List.mem_of_mem_drop hz), Or.inr ⟨hx, hy⟩⟩

theorem prev2Rel_agreeL (x y : Bytes) (h : AgreeL x y) : prev2Rel x = prev2Rel y := by
  unfold prev2Rel
  obtain ⟨e1, e2⟩ := prevRel_agreeL x y h
  rw [← e1]
  cases hk : prevRel x with
  | none => rfl
  | some k =>
    simp only [Option.bind_some]
    rw [(prevRel_agreeL _ _ (e2 k hk)).1]

theorem nextRel_agreeR (x y : Bytes) (h : AgreeR x y) :
    nextRel x = nextRel y ∧ ∀ k, nextRel x = some k → AgreeR (x.drop (k + 1)) (y.drop (k + 1)) := by
  obtain ⟨w, tx, ty, rfl, rfl, hw, ht⟩ := h
  have key : scanNL true tx = none ∧ scanNL true ty = none := by
    rcases ht with ⟨rfl, rfl⟩ | ⟨hx, hy⟩
    · exact ⟨rfl, rfl⟩
    · exact ⟨scanNL_stopped [] tx (by simp) (Or.inr hx), scanNL_stopped [] ty (by simp) (Or.inr hy)⟩
  rw [nextRel_eq, nextRel_eq]
  obtain ⟨e1, e2⟩ := scanNL_ws w tx ty hw key.1 key.2
  refine ⟨e1, fun k hk => ?_⟩
  have hkw := e2 k hk
  exact ⟨w.drop (k + 1), tx, ty, List.drop_append_of_le_length (by omega), List.drop_append_of_le_length (by omega),
    fun z hz => hw z (List.mem_of_mem_drop hz), ht⟩

theorem agreeL_nil (x y : Bytes) (h : AgreeL x y) : x = [] ↔ y = [] := by
  obtain ⟨w, tx, ty, rfl, rfl, _, ht⟩ := h
  rcases ht with ⟨rfl, rfl⟩ | ⟨⟨cs, s, rest, rfl, _, _⟩, ⟨cs', s', rest', rfl, _, _⟩⟩
  · simp
  · simp

theorem next2Rel_agree (l l' r r' : Bytes) (hl : AgreeL l l') (hr : AgreeR r r') : next2Rel l r = next2Rel l' r' := by
  unfold next2Rel
  have hnil := agreeL_nil l l' hl
  by_cases h0 : l = []
  · rw [if_pos h0, if_pos (hnil.mp h0)]
  · rw [if_neg h0, if_neg (fun h => h0 (hnil.mpr h))]
    obtain ⟨e1, e2⟩ := nextRel_agreeR r r' hr
    rw [← e1]
    cases hk : nextRel r with
    | none => rfl
    | some k =>
      simp only [Option.bind_some]
      rw [(nextRel_agreeR _ _ (e2 k hk)).1]

theorem agreeR_head (r r' : Bytes) (h : AgreeR r r') :
    (r.head? = some NL ↔ r'.head? = some NL) ∧ r.head? ≠ some .cont ∧ r'.head? ≠ some .cont := by
  obtain ⟨w, tx, ty, rfl, rfl, hw, ht⟩ := h
  cases w with
  | cons z w =>
    have hz : z ≠ .cont := by rcases hw z (by simp) with rfl | rfl | rfl <;> nofun
    exact ⟨Iff.rfl, fun e => hz (Option.some.inj e), fun e => hz (Option.some.inj e)⟩
  | nil =>
    rcases ht with ⟨rfl, rfl⟩ | ⟨⟨s, rest, rfl, hs⟩, ⟨s', rest', rfl, hs'⟩⟩
    · exact ⟨Iff.rfl, nofun, nofun⟩
    · have hc : ∀ {x}, isStopB x → x ≠ .cont := fun ⟨_, e, _⟩ => e ▸ nofun
      exact ⟨⟨fun e => absurd (Option.some.inj e) (isStopByte_ne_nl ((isStopB_iff s).mp hs)),
          fun e => absurd (Option.some.inj e) (isStopByte_ne_nl ((isStopB_iff s').mp hs'))⟩,
        fun e => hc hs (Option.some.inj e), fun e => hc hs' (Option.some.inj e)⟩

/-- the range at a seam depends on the text only through the whitespace next to the seam -/
theorem relHull_agree (l l' r r' : Bytes) (hl : AgreeL l l') (hr : AgreeR r r') : relHull l r = relHull l' r' := by
  obtain ⟨hnl, hc, hc'⟩ := agreeR_head r r' hr
  unfold relHull
  rw [relEmpty_eq, relEmpty_eq, if_neg hc, if_neg hc', relIndent, relIndent, relPrev, relPrev, relNext, relNext,
    indentRel_agreeL l l' hl, prev2Rel_agreeL l l' hl, next2Rel_agree l l' r r' hl hr]
  by_cases h : r.head? = some NL
  · rw [if_pos h, if_pos h, if_pos (hnl.mp h), if_pos (hnl.mp h)]
  · rw [if_neg h, if_neg h, if_neg (mt hnl.mpr h), if_neg (mt hnl.mpr h)]

theorem relHull_le (l r : Bytes) (kl kr : Nat) (h : relHull l r = .ok (kl, kr)) : kl ≤ l.length := by
  unfold relHull at h
  cases he : relEmpty l r with
  | error e => rw [he] at h; cases h
  | ok ke =>
    rw [he] at h
    obtain rfl : max (relIndent l r) (relPrev l) = kl := congrArg Prod.fst (Except.ok.inj h)
    refine Nat.max_le.mpr ⟨?_, ?_⟩
    · unfold relIndent
      split
      · cases hk : indentRel l with
        | none => exact Nat.zero_le _
        | some k => exact Nat.le_of_lt (indentRel_le l k hk)
      · exact Nat.zero_le _
    · unfold relPrev
      cases hk : prev2Rel l with
      | none => exact Nat.zero_le _
      | some kk => exact Nat.le_of_lt (Nat.lt_of_succ_lt (prev2Rel_lt l kk hk))

end Chiritori
