/-
Kernel evaluation of statements about concrete documents.
-/

/-- `decide_lit f g ..`: `decide +kernel` after unfolding `f g ..` and rewriting every `"…".toList` in the goal to the
list of its characters. The rewriting is by `String.toList_ofList`, which the kernel checks at no cost (a string
literal *is* `String.ofList` of its characters), whereas evaluating `String.toList` on a literal makes it decode
the UTF-8 bytes at some ten milliseconds a character - more than the whole model takes on the same document.
Name only constants that abbreviate a document or a configuration, not functions that `match` (`mkTag`, `cleanOr`,
`outIs`): `unfold` reduces the `match` and with it the literal, before anything is rewritten. For those use a lemma
about the function (`C08.mkTag_ofList`, `outIs_iff`). -/
macro "decide_lit" ids:(ppSpace colGt ident)* : tactic =>
  `(tactic| ((try unfold $ids*); (repeat rw [String.toList_ofList]); decide +kernel))
