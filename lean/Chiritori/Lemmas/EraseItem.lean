import Chiritori.Lemmas.DecideLit
import Chiritori.Lemmas.Erase
/-
  The coloured list item is the plain item with colour codes inserted, provided no colour code stands directly behind
  a carriage return in the shown lines (`er_renderItem_of`): so for texts without carriage returns (`er_renderItem`)
  and for CR LF texts (`er_renderItem_cr`).  The plain item has an escape character only if the source has one
  (`noEsc_renderItem`).
-/
namespace Chiritori

theorem NoCrEsc_colOpt (k : List Char) (hk : IsColOpt k) : NoCrEsc k := by
  rcases hk with hk | rfl
  · exact NoCrEsc_of_noCr k fun c hc => (col_chars k hk c hc).2.2
  · trivial

theorem colOpt_last (k : List Char) (hk : IsColOpt k) : k.getLast? ≠ some '\r' := by
  rcases hk with hk | rfl
  · exact fun h => (col_chars k hk _ (List.mem_of_getLast? h)).2.2 rfl
  · simp

theorem NoCrEsc_wrap (k1 k2 l : List Char) (hk1 : IsColOpt k1) (hk2 : IsColOpt k2)
    (h1 : ∀ c ∈ l, c ≠ '\x1b') (h2 : l.getLast? ≠ some '\r') : NoCrEsc (k1 ++ l ++ k2) := by
  refine NoCrEsc_append _ _ (NoCrEsc_append _ _ (NoCrEsc_colOpt k1 hk1) (NoCrEsc_of_noEsc l h1) ?_) (NoCrEsc_colOpt k2 hk2) ?_
  · intro _ hh
    exact h1 _ (List.mem_of_head? hh) rfl
  · -- the last character in front of `k2` is the last of `l`, or of `k1` when `l` is empty
    intro hh
    rw [List.getLast?_append] at hh
    cases hl : l.getLast? with
    | none => rw [hl] at hh; exact absurd hh (colOpt_last k1 hk1)
    | some d => rw [hl] at hh; exact absurd (hl.trans hh) h2

theorem NoCrEsc_joinWith : ∀ (A : List (List Char)), (∀ l ∈ A, NoCrEsc l) → NoCrEsc (joinWith ['\n'] A)
  | [], _ => trivial
  | [l], h => h l (by simp)
  | l :: l2 :: rest, h => by
    have ih := NoCrEsc_joinWith (l2 :: rest) fun x hx => h x (by simp [hx])
    simp only [joinWith]
    exact NoCrEsc_append _ _ (NoCrEsc_append _ _ (h l (by simp)) trivial (by simp)) ih (by simp)

theorem joinWrap_head (k1 k2 : List Char) (Ls : List (List Char)) (hne : Ls ≠ []) (t : List Char) (hk1 : k1 = '\x1b' :: t) :
    (joinWith ['\n'] (Ls.map fun l => k1 ++ l ++ k2)).head? = some '\x1b' := by
  obtain ⟨l, rest, rfl⟩ := List.exists_cons_of_ne_nil hne
  cases rest <;> simp [joinWith, hk1]

theorem joinWrap_last (k1 k2 : List Char) (Ls : List (List Char)) (hne : Ls ≠ []) (t : List Char) (hk2 : k2 = t ++ ['m']) :
    (joinWith ['\n'] (Ls.map fun l => k1 ++ l ++ k2)).getLast? = some 'm' := by
  induction Ls with
  | nil => exact absurd rfl hne
  | cons l rest ih =>
    cases rest with
    | nil => simp [joinWith, hk2, ← List.append_assoc]
    | cons l2 r2 =>
      have := ih (by simp)
      simp only [List.map_cons, joinWith] at this ⊢
      rw [List.getLast?_append, this]
      rfl

theorem colMarker_opt (coloring : Bool) : IsColOpt (colMarker coloring) := by
  cases coloring
  · exact Or.inr rfl
  · exact Or.inl (Or.inl rfl)

theorem colSpan_opt (coloring isRemoval : Bool) : IsColOpt (colSpan coloring isRemoval) := by
  cases coloring
  · exact Or.inr rfl
  · cases isRemoval
    · exact Or.inl (Or.inr (Or.inr (Or.inl rfl)))
    · exact Or.inl (Or.inr (Or.inl rfl))

theorem colOff_opt (coloring : Bool) : IsColOpt (colOff coloring) := by
  cases coloring
  · exact Or.inr rfl
  · exact Or.inl (Or.inr (Or.inr (Or.inr rfl)))

theorem Er.append_col {a a' k : List Char} (h : Er a a') (hk : IsColOpt k) : Er (a ++ k) a' := by
  simpa using h.append (Er.colOpt k hk)

/-- the shown lines without the line break at their end -/
def removedBody (coloring isRemoval : Bool) (g : ItemGeom) : List Char :=
  charsOf g.pre
    ++ joinWith ['\n'] ((rustLines (charsOf g.mid)).map fun l => colSpan coloring isRemoval ++ l ++ colOff coloring)
    ++ charsOf g.post

theorem removedText_eq (coloring isRemoval : Bool) (g : ItemGeom) :
    removedText coloring isRemoval g = removedBody coloring isRemoval g ++ ['\n'] := rfl

theorem removedBody_false (isRemoval : Bool) (g : ItemGeom) :
    removedBody false isRemoval g = charsOf g.pre ++ joinWith ['\n'] (rustLines (charsOf g.mid)) ++ charsOf g.post := by
  simp [removedBody, colSpan, colOff]

theorem removedBody_false_mem (isRemoval : Bool) (g : ItemGeom) (c : Char) (hc : c ∈ removedBody false isRemoval g) :
    c = '\n' ∨ c ∈ charsOf g.pre ∨ c ∈ charsOf g.mid ∨ c ∈ charsOf g.post := by
  rw [removedBody_false, List.mem_append, List.mem_append] at hc
  rcases hc with (hc | hc) | hc
  · exact Or.inr (Or.inl hc)
  · rcases joinWith_mem _ _ c hc with hc | ⟨l, hl, hcl⟩
    · exact Or.inl (List.mem_singleton.mp hc)
    · exact Or.inr (Or.inr (Or.inl (rustLines_mem _ l hl c hcl)))
  · exact Or.inr (Or.inr (Or.inr hc))

theorem er_removedBody (coloring isRemoval : Bool) (g : ItemGeom) :
    Er (removedBody coloring isRemoval g) (removedBody false isRemoval g) := by
  rw [removedBody_false]
  refine ((Er.refl _).append ?_).append (Er.refl _)
  have := er_joinWith ['\n'] _ _ (erL_map (fun l => colSpan coloring isRemoval ++ l ++ colOff coloring) id
    (fun l => ((Er.colOpt _ (colSpan_opt coloring isRemoval)).append (Er.refl l)).append_col (colOff_opt coloring))
    (rustLines (charsOf g.mid)))
  rwa [List.map_id] at this

theorem er_removedText (coloring isRemoval : Bool) (g : ItemGeom) :
    Er (removedText coloring isRemoval g) (removedText false isRemoval g) :=
  (er_removedBody coloring isRemoval g).append (Er.refl _)

theorem renderItem_false (isRemoval : Bool) (lineRange : Option (Nat × Nat)) (g : ItemGeom) :
    renderItem false isRemoval lineRange g =
      (List.replicate g.startTabs tabspace).flatten ++ List.replicate g.startPad ' ' ++ strMarkerStart ++ ['\n']
        ++ replaceTabs (codeBlockOf lineRange (removedText false isRemoval g))
        ++ (List.replicate g.endTabs tabspace).flatten ++ List.replicate g.endPad ' ' ++ strMarkerEnd := by
  simp only [renderItem, colMarker, colOff, Bool.false_eq_true, if_false, List.append_nil]

theorem er_renderItem_of (coloring isRemoval : Bool) (lineRange : Option (Nat × Nat)) (g : ItemGeom)
    (hn : NoCrEsc (removedBody coloring isRemoval g)) :
    Er (renderItem coloring isRemoval lineRange g) (renderItem false isRemoval lineRange g) := by
  have hm := colMarker_opt coloring
  have ho := colOff_opt coloring
  have hcode : Er (codeBlockOf lineRange (removedText coloring isRemoval g))
      (codeBlockOf lineRange (removedText false isRemoval g)) := by
    cases lineRange with
    | none => exact er_removedText coloring isRemoval g
    | some az =>
      obtain ⟨a, z⟩ := az
      simp only [codeBlockOf, removedText_eq]
      exact er_zipLines _ _ _ (er_rustLines_cr (er_removedBody coloring isRemoval g) hn)
  rw [renderItem_false]
  unfold renderItem
  refine (((((Er.append ?_ (er_replaceTabs hcode)).append (Er.refl _)).append (Er.refl _)).append_col hm).append
    (Er.refl _)).append_col ho
  exact (((((Er.refl _).append (Er.refl _)).append_col hm).append (Er.refl _)).append_col ho).append (Er.refl _)

/-- the coloured item is the plain item with colour codes inserted (LF texts) -/
theorem er_renderItem (coloring isRemoval : Bool) (lineRange : Option (Nat × Nat)) (g : ItemGeom)
    (h : ∀ c, c ∈ charsOf g.pre ∨ c ∈ charsOf g.mid ∨ c ∈ charsOf g.post → c ≠ '\r') :
    Er (renderItem coloring isRemoval lineRange g) (renderItem false isRemoval lineRange g) := by
  apply er_renderItem_of
  apply NoCrEsc_of_noCr
  intro c hc
  rcases er_mem (er_removedBody coloring isRemoval g) c hc with hc | hc
  · rcases removedBody_false_mem isRemoval g c hc with rfl | hc
    · decide
    · exact h c hc
  · exact hc.2.2

/-- the coloured item is the plain item with colour codes inserted - CR LF texts included - provided the text has
    no escape character, the part of the first line in front of the region does not end with a carriage return
    (the region does not begin between CR and LF), and no line of the highlighted span ends with one (which
    `colorEndOf` sees to in texts whose carriage returns all stand in front of a line break) -/
theorem er_renderItem_cr (coloring isRemoval : Bool) (lineRange : Option (Nat × Nat)) (g : ItemGeom)
    (hesc : ∀ c, c ∈ charsOf g.pre ∨ c ∈ charsOf g.mid ∨ c ∈ charsOf g.post → c ≠ '\x1b')
    (hpre : (charsOf g.pre).getLast? ≠ some '\r')
    (hmid : ∀ l ∈ rustLines (charsOf g.mid), l.getLast? ≠ some '\r') :
    Er (renderItem coloring isRemoval lineRange g) (renderItem false isRemoval lineRange g) := by
  apply er_renderItem_of
  have hJ : NoCrEsc (joinWith ['\n'] ((rustLines (charsOf g.mid)).map fun l =>
      colSpan coloring isRemoval ++ l ++ colOff coloring)) := by
    apply NoCrEsc_joinWith
    intro w hw
    obtain ⟨l, hl, rfl⟩ := List.mem_map.mp hw
    exact NoCrEsc_wrap _ _ l (colSpan_opt coloring isRemoval) (colOff_opt coloring)
      (fun c hc => hesc c (Or.inr (Or.inl (rustLines_mem _ l hl c hc)))) (hmid l hl)
  refine NoCrEsc_append _ _ (NoCrEsc_append _ _ (NoCrEsc_of_noEsc _ fun c hc => hesc c (Or.inl hc)) hJ
    (fun hh => absurd hh hpre)) (NoCrEsc_of_noEsc _ fun c hc => hesc c (Or.inr (Or.inr hc))) ?_
  intro _ hh
  exact hesc _ (Or.inr (Or.inr (List.mem_of_head? hh))) rfl

def NoEsc (l : List Char) : Prop := ∀ c ∈ l, c ≠ '\x1b'

instance (l : List Char) : Decidable (NoEsc l) := by unfold NoEsc; exact inferInstance

theorem NoEsc.append {a b : List Char} (h1 : NoEsc a) (h2 : NoEsc b) : NoEsc (a ++ b) := by
  intro c hc
  rcases List.mem_append.mp hc with h | h
  · exact h1 c h
  · exact h2 c h

theorem noEsc_replicate (n : Nat) (d : Char) (hd : d ≠ '\x1b') : NoEsc (List.replicate n d) := by
  intro c hc
  rw [(List.mem_replicate.mp hc).2]; exact hd

theorem noEsc_tabs (n : Nat) : NoEsc (List.replicate n tabspace).flatten := by
  intro c hc
  obtain ⟨l, hl, hcl⟩ := List.mem_flatten.mp hc
  rw [(List.mem_replicate.mp hl).2] at hcl
  have : NoEsc tabspace := by decide_lit tabspace
  exact this c hcl

theorem noEsc_digits (n : Nat) : NoEsc (natToDigits n) := by
  intro c hc
  unfold natToDigits at hc
  rw [Nat.toString_eq_ofList_toDigits] at hc
  simp only [String.toList_ofList] at hc
  have := Nat.isDigit_of_mem_toDigits (by decide) (by decide) hc
  rintro rfl
  exact absurd this (by decide)

theorem noEsc_lineColumn (i : Nat) : NoEsc (lineColumn i) := by
  unfold lineColumn
  exact ((noEsc_replicate _ ' ' (by decide)).append (noEsc_digits i)).append (by decide_lit)

theorem noEsc_replaceTabs : ∀ (l : List Char), NoEsc l → NoEsc (replaceTabs l)
  | [], _ => by simp [replaceTabs, NoEsc]
  | c :: cs, h => by
    simp only [replaceTabs]
    have ih := noEsc_replaceTabs cs (fun d hd => h d (by simp [hd]))
    split
    · exact NoEsc.append (by decide_lit tabspace) ih
    · intro d hd
      rcases List.mem_cons.mp hd with rfl | hd
      · exact h d (by simp)
      · exact ih d hd

theorem noEsc_rustLines (s : List Char) (h : NoEsc s) : ∀ l ∈ rustLines s, NoEsc l :=
  fun l hl c hc => h c (rustLines_mem s l hl c hc)

theorem noEsc_zipLines : ∀ (nums : List Nat) (ls : List (List Char)), (∀ l ∈ ls, NoEsc l) → NoEsc (zipLines nums ls)
  | [], _, _ => by simp [zipLines, NoEsc]
  | _ :: is, [], _ => by simp only [zipLines]; exact noEsc_zipLines is [] (by simp)
  | i :: is, l :: ls, h => by
    simp only [zipLines]
    exact (((noEsc_lineColumn i).append (h l (by simp))).append (by decide)).append
      (noEsc_zipLines is ls (fun l' hl' => h l' (by simp [hl'])))

/-- the plain item contains an escape character only if the source does -/
theorem noEsc_renderItem (isRemoval : Bool) (lineRange : Option (Nat × Nat)) (g : ItemGeom)
    (h : ∀ c, c ∈ charsOf g.pre ∨ c ∈ charsOf g.mid ∨ c ∈ charsOf g.post → c ≠ '\x1b') :
    NoEsc (renderItem false isRemoval lineRange g) := by
  have hrem : NoEsc (removedText false isRemoval g) := by
    refine NoEsc.append (fun c hc => ?_) (by decide)
    rcases removedBody_false_mem isRemoval g c hc with rfl | hc
    · decide
    · exact h c hc
  have hcode : NoEsc (codeBlockOf lineRange (removedText false isRemoval g)) := by
    cases lineRange with
    | none => exact hrem
    | some az => exact noEsc_zipLines _ _ (noEsc_rustLines _ hrem)
  rw [renderItem_false]
  exact (((((((noEsc_tabs _).append (noEsc_replicate _ ' ' (by decide))).append (by decide_lit strMarkerStart)).append
    (by decide)).append (noEsc_replaceTabs _ hcode)).append (noEsc_tabs _)).append
    (noEsc_replicate _ ' ' (by decide))).append (by decide_lit strMarkerEnd)

end Chiritori
