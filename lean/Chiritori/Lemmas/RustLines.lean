import Chiritori.Model.Listing
/-
  `str::lines` against the lines of a text.  The text split at its line breaks (`linesT`), each line without the
  carriage return at its end (`stripCR`), is what `str::lines` yields, both for a text with a final line break
  (`rustLines_terminated_cr`) and for one without (`rustLines_unterminated`).  Joining the lines with line breaks
  gives the text back (`joinWith_linesT`), with every `\r\n` turned into `\n` (`joinWith_rustLines_cr`).
-/
namespace Chiritori

/-- `cur ++ y` split at the line breaks of `y` (`cur`: the line read so far); on characters, where `Spec.linesT`
    splits bytes: under `open Spec` only the type of the argument tells the two apart -/
def linesT : List Char → List Char → List (List Char)
  | [], cur => [cur]
  | c :: cs, cur => if c = '\n' then cur :: linesT cs [] else linesT cs (cur ++ [c])

def stripCR (l : List Char) : List Char := if l.getLast? = some '\r' then l.dropLast else l

theorem getLast?_append_ne {α} (l l' : List α) (h : l' ≠ []) : (l ++ l').getLast? = l'.getLast? := by
  rw [List.getLast?_append, List.getLast?_eq_some_getLast h]; rfl

theorem getLast?_append_cons_iff {α} (l : List α) {a x : α} (cs : List α) (hx : x ≠ a) :
    (l ++ a :: cs).getLast? = some x ↔ cs.getLast? = some x := by
  rw [List.getLast?_append, List.getLast?_cons]
  cases cs.getLast? with
  | none => exact ⟨fun h => absurd (Option.some.inj h).symm hx, nofun⟩
  | some y => exact Iff.rfl

theorem linesT_ne_nil (y cur : List Char) : linesT y cur ≠ [] := by
  induction y generalizing cur with
  | nil => simp [linesT]
  | cons c cs ih =>
    simp only [linesT]
    split
    · simp
    · exact ih _

theorem linesT_append_nl (W R cur : List Char) : linesT (W ++ '\n' :: R) cur = linesT W cur ++ linesT R [] := by
  induction W generalizing cur with
  | nil => simp [linesT]
  | cons c cs ih =>
    simp only [List.cons_append, linesT]
    split
    · rw [ih []]; rfl
    · exact ih _

theorem linesT_length (W cur : List Char) : (linesT W cur).length = W.count '\n' + 1 := by
  induction W generalizing cur with
  | nil => rfl
  | cons c cs ih =>
    simp only [linesT]
    split
    · rename_i h; subst h
      simp [ih []]
    · rename_i h
      rw [ih _, List.count_cons_of_ne h]

theorem linesT_window (A W B : List Char) (hA : A = [] ∨ ∃ A', A = A' ++ ['\n']) (hB : B = [] ∨ ∃ B', B = '\n' :: B')
    (n : Nat) (hn : n ≤ (linesT W []).length) :
    ((linesT (A ++ (W ++ B)) []).drop (A.count '\n')).take n = (linesT W []).take n := by
  have hd : (linesT (A ++ (W ++ B)) []).drop (A.count '\n') = linesT (W ++ B) [] := by
    rcases hA with rfl | ⟨A', rfl⟩
    · rfl
    · rw [List.append_assoc, List.singleton_append, linesT_append_nl, List.count_append, List.count_singleton_self,
        ← linesT_length A' [], List.drop_left]
  rw [hd]
  rcases hB with rfl | ⟨B', rfl⟩
  · rw [List.append_nil]
  · rw [linesT_append_nl, List.take_append_of_le_length hn]

theorem linesT_subset (y cur l : List Char) (hl : l ∈ linesT y cur) : l ⊆ cur ++ y := by
  induction y generalizing cur with
  | nil =>
    rw [linesT, List.mem_singleton] at hl
    rw [hl, List.append_nil]
    exact List.Subset.refl _
  | cons d ds ih =>
    simp only [linesT] at hl
    split at hl
    · rcases List.mem_cons.mp hl with rfl | hl
      · exact List.subset_append_left _ _
      · exact fun c hc => List.mem_append_right _ (List.mem_cons_of_mem _ (ih [] hl hc))
    · have := ih _ hl
      rwa [List.append_assoc] at this

theorem joinWith_cons (sep x : List Char) {xs : List (List Char)} (h : xs ≠ []) :
    joinWith sep (x :: xs) = x ++ sep ++ joinWith sep xs := by
  cases xs with
  | nil => exact absurd rfl h
  | cons _ _ => rfl

theorem joinWith_linesT : ∀ (y cur : List Char), joinWith ['\n'] (linesT y cur) = cur ++ y := by
  intro y
  induction y with
  | nil => intro cur; simp [linesT, joinWith]
  | cons c cs ih =>
    intro cur
    simp only [linesT]
    split
    · rename_i h; subst h
      rw [joinWith_cons _ _ (linesT_ne_nil cs []), ih []]
      simp
    · rw [ih _]; simp

theorem stripCR_of_ne {l : List Char} (h : l.getLast? ≠ some '\r') : stripCR l = l := if_neg h

theorem stripCR_snoc_cr (l : List Char) : stripCR (l ++ ['\r']) = l := by simp [stripCR]

theorem stripCR_last {l : List Char} (h : ∀ u, l ≠ u ++ ['\r', '\r']) : (stripCR l).getLast? ≠ some '\r' := by
  by_cases hl : l.getLast? = some '\r'
  · obtain ⟨l0, rfl⟩ := List.getLast?_eq_some_iff.mp hl
    rw [stripCR_snoc_cr]
    intro hl0
    obtain ⟨l1, rfl⟩ := List.getLast?_eq_some_iff.mp hl0
    exact h l1 (by simp)
  · rwa [stripCR_of_ne hl]

theorem map_stripCR_of_nocr (L : List (List Char)) (h : ∀ l ∈ L, ∀ c ∈ l, c ≠ '\r') : L.map stripCR = L := by
  rw [List.map_congr_left (g := id), List.map_id]
  intro l hl
  exact stripCR_of_ne fun hh => h l hl _ (List.mem_of_getLast? hh) rfl

theorem stripLineEnd_piece (w : List Char) : stripLineEnd (w ++ ['\n']) = stripCR w := by
  by_cases h : w.getLast? = some '\r' <;> simp [stripLineEnd, stripCR, h]

theorem stripLineEnd_id (l : List Char) (h : l.getLast? ≠ some '\n') : stripLineEnd l = l := by
  unfold stripLineEnd
  split
  · rename_i heq; exact absurd heq h
  · rfl

theorem rustLines_terminated_cr : ∀ (y cur : List Char),
    (splitInclusive (y ++ ['\n']) cur).map stripLineEnd = (linesT y cur).map stripCR := by
  intro y
  induction y with
  | nil =>
    intro cur
    simp only [List.nil_append, splitInclusive, linesT, if_true, List.map_cons, List.map_nil, stripLineEnd_piece]
  | cons c cs ih =>
    intro cur
    simp only [List.cons_append, splitInclusive, linesT]
    split
    · rename_i hcn
      subst hcn
      simp only [List.map_cons, stripLineEnd_piece, ih []]
    · exact ih (cur ++ [c])

/-- the same for a text without a final line break; a carriage return at its very end would stay -/
theorem rustLines_unterminated (m cur : List Char) (x : Char) (h : (cur ++ m).getLast? = some x) (hn : x ≠ '\n')
    (hr : x ≠ '\r') : (splitInclusive m cur).map stripLineEnd = (linesT m cur).map stripCR := by
  induction m generalizing cur with
  | nil =>
    rw [List.append_nil] at h
    cases cur with
    | nil => cases h
    | cons d ds =>
      simp only [splitInclusive, linesT, List.map_cons, List.map_nil]
      rw [stripLineEnd_id _ (by rw [h]; exact fun e => hn (Option.some.inj e)),
        stripCR_of_ne (by rw [h]; exact fun e => hr (Option.some.inj e))]
  | cons c cs ih =>
    simp only [splitInclusive, linesT]
    split
    · rename_i hc; subst hc
      simp only [List.map_cons, stripLineEnd_piece]
      rw [ih [] ((getLast?_append_cons_iff cur cs hn).mp h)]
    · exact ih (cur ++ [c]) (by rwa [List.append_assoc])

theorem splitInclusive_flatten (s cur : List Char) : (splitInclusive s cur).flatten = cur ++ s := by
  induction s generalizing cur with
  | nil => cases cur <;> simp [splitInclusive]
  | cons c cs ih =>
    simp only [splitInclusive]
    split
    · simp [ih []]
    · simp [ih (cur ++ [c])]

theorem stripLineEnd_subset (l : List Char) : ∀ c ∈ stripLineEnd l, c ∈ l := by
  intro c hc
  unfold stripLineEnd at hc
  split at hc
  · simp only at hc
    split at hc
    · exact List.dropLast_subset _ (List.dropLast_subset _ hc)
    · exact List.dropLast_subset _ hc
  · exact hc

theorem rustLines_mem (s l : List Char) (hl : l ∈ rustLines s) : ∀ c ∈ l, c ∈ s := by
  obtain ⟨l1, hl1, rfl⟩ := List.mem_map.mp hl
  intro c hc
  have : c ∈ (splitInclusive s []).flatten := List.mem_flatten.mpr ⟨l1, hl1, stripLineEnd_subset l1 c hc⟩
  rwa [splitInclusive_flatten] at this

theorem joinWith_mem (sep : List Char) : ∀ (A : List (List Char)) (c : Char), c ∈ joinWith sep A →
    c ∈ sep ∨ ∃ l ∈ A, c ∈ l
  | [], c, h => by simp [joinWith] at h
  | [a], c, h => by simp only [joinWith] at h; exact Or.inr ⟨a, by simp, h⟩
  | a :: a2 :: as, c, h => by
    simp only [joinWith, List.mem_append] at h
    rcases h with (h | h) | h
    · exact Or.inr ⟨a, by simp, h⟩
    · exact Or.inl h
    · rcases joinWith_mem sep (a2 :: as) c h with h | ⟨l, hl, hc⟩
      · exact Or.inl h
      · exact Or.inr ⟨l, List.mem_cons_of_mem _ hl, hc⟩

end Chiritori

namespace Chiritori.Props.C16
open Chiritori

def CrThenNl : List Char → Prop
  | [] => True
  | c :: rest => (c = '\r' → ∃ t, rest = '\n' :: t) ∧ CrThenNl rest

def dropCrLf : List Char → List Char
  | [] => []
  | c :: rest => if c = '\r' ∧ rest.head? = some '\n' then dropCrLf rest else c :: dropCrLf rest

def crThenNlB : List Char → Bool
  | [] => true
  | c :: rest => (c != '\r' || rest.head? == some '\n') && crThenNlB rest

theorem crThenNlB_sound : ∀ (l : List Char), crThenNlB l = true → CrThenNl l
  | [], _ => trivial
  | c :: rest, h => by
    simp only [crThenNlB, Bool.and_eq_true, Bool.or_eq_true, bne_iff_ne, ne_eq, beq_iff_eq] at h
    refine ⟨fun hc => ?_, crThenNlB_sound rest h.2⟩
    rcases h.1 with h1 | h1
    · exact absurd hc h1
    · exact List.head?_eq_some_iff.mp h1

theorem CrThenNl_of_nocr : ∀ (m : List Char), (∀ c ∈ m, c ≠ '\r') → CrThenNl m
  | [], _ => trivial
  | c :: rest, h => ⟨fun hc => absurd hc (h c (by simp)), CrThenNl_of_nocr rest fun d hd => h d (by simp [hd])⟩

theorem CrThenNl_right : ∀ (a b : List Char), CrThenNl (a ++ b) → CrThenNl b
  | [], _, h => h
  | _ :: a, b, h => CrThenNl_right a b h.2

theorem CrThenNl.last_ne_cr : ∀ {m : List Char}, CrThenNl m → m.getLast? ≠ some '\r'
  | [], _ => by simp
  | [c], h => by
    intro hc
    obtain ⟨t, ht⟩ := h.1 (by simpa using hc)
    cases ht
  | _ :: d :: t, h => by
    rw [List.getLast?_cons_cons]
    exact CrThenNl.last_ne_cr h.2

theorem dropCrLf_cons_ne (c : Char) (t : List Char) (hc : c ≠ '\r') : dropCrLf (c :: t) = c :: dropCrLf t := by
  simp [dropCrLf, hc]

theorem dropCrLf_cr {t : List Char} (h : CrThenNl ('\r' :: t)) : dropCrLf ('\r' :: t) = dropCrLf t := by
  obtain ⟨t', rfl⟩ := h.1 rfl
  simp [dropCrLf]

theorem dropCrLf_eq_filter : ∀ (m : List Char), CrThenNl m → dropCrLf m = m.filter (· ≠ '\r')
  | [], _ => rfl
  | c :: t, h => by
    by_cases hc : c = '\r'
    · subst hc
      rw [dropCrLf_cr h, dropCrLf_eq_filter t h.2]
      simp
    · rw [dropCrLf_cons_ne c t hc, dropCrLf_eq_filter t h.2]
      simp [hc]

/-- the lines of a text, carriage returns stripped, do not change when `\r\n` is replaced by `\n` in a stretch of it -/
theorem linesT_dropCrLf (Q M cur : List Char) (hM : CrThenNl M) (hcur : cur.getLast? ≠ some '\r') :
    (linesT (dropCrLf M ++ Q) cur).map stripCR = (linesT (M ++ Q) cur).map stripCR := by
  induction M generalizing cur with
  | nil => rfl
  | cons c t ih =>
    by_cases hc : c = '\r'
    · -- the line that ends here is `cur` on the left and `cur ++ ['\r']` on the right
      subst hc
      rw [dropCrLf_cr hM, ih cur hM.2 hcur]
      obtain ⟨t', rfl⟩ := hM.1 rfl
      simp [linesT, stripCR_snoc_cr, stripCR_of_ne hcur]
    · rw [dropCrLf_cons_ne c t hc]
      simp only [List.cons_append, linesT]
      split
      · rw [List.map_cons, List.map_cons, ih [] hM.2 nofun]
      · exact ih (cur ++ [c]) hM.2 (by rw [List.getLast?_concat]; exact fun e => hc (Option.some.inj e))

theorem linesT_dropCrLf_pre (M Q : List Char) (hM : CrThenNl M) : ∀ (P cur : List Char), (cur ++ P).getLast? ≠ some '\r' →
    (linesT (P ++ (dropCrLf M ++ Q)) cur).map stripCR = (linesT (P ++ (M ++ Q)) cur).map stripCR := by
  intro P
  induction P with
  | nil =>
    intro cur h
    exact linesT_dropCrLf Q M cur hM (by rwa [List.append_nil] at h)
  | cons c t ih =>
    intro cur h
    simp only [List.cons_append, linesT]
    split
    · rename_i hc; subst hc
      rw [List.map_cons, List.map_cons, ih [] fun hh => h ((getLast?_append_cons_iff cur t (by decide)).mpr hh)]
    · exact ih (cur ++ [c]) (by rwa [List.append_assoc])

/-- `str::lines` then joining with line breaks: `\r\n` becomes `\n` -/
theorem joinWith_rustLines_cr (m : List Char) (hM : CrThenNl m) (hl : m.getLast? ≠ some '\n') :
    joinWith ['\n'] (rustLines m) = dropCrLf m := by
  cases hx : m.getLast? with
  | none => rw [List.getLast?_eq_none_iff.mp hx]; rfl
  | some x =>
    have h := linesT_dropCrLf [] m [] hM nofun
    rw [List.append_nil, List.append_nil] at h
    rw [rustLines, rustLines_unterminated m [] x hx (fun e => hl (e ▸ hx)) (fun e => hM.last_ne_cr (e ▸ hx)), ← h,
      map_stripCR_of_nocr, joinWith_linesT, List.nil_append]
    intro l hl c hc
    have hc : c ∈ dropCrLf m := linesT_subset _ [] l hl hc
    rw [dropCrLf_eq_filter m hM] at hc
    simpa using (List.mem_filter.mp hc).2

end Chiritori.Props.C16

namespace Chiritori
open Props.C16

theorem joinWith_rustLines (m : List Char) (hcr : ∀ c ∈ m, c ≠ '\r') (hl : m.getLast? ≠ some '\n') :
    joinWith ['\n'] (rustLines m) = m := by
  rw [joinWith_rustLines_cr m (CrThenNl_of_nocr m hcr) hl, dropCrLf_eq_filter m (CrThenNl_of_nocr m hcr)]
  exact List.filter_eq_self.mpr fun c hc => by simpa using hcr c hc

theorem joinWith_rustLines_snoc (w : List Char) {c : Char} (hc : c ≠ '\n') (hcr : ∀ d ∈ w ++ [c], d ≠ '\r') :
    joinWith ['\n'] (rustLines (w ++ [c])) = w ++ [c] :=
  joinWith_rustLines _ hcr (by rw [List.getLast?_concat]; exact fun h => hc (Option.some.inj h))

end Chiritori
