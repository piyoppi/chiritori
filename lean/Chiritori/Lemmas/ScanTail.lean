import Chiritori.Lemmas.ScanFit
/-
  The end of the document: behind the last complete piece the source may go on with a stretch in which no further tag
  is found - plain text, a partial match of the start delimiter left pending, or an unterminated tag (start delimiter,
  body, no end delimiter).  `tailFit` asks (a) that the automaton, run over the last stretch, never completes an end
  delimiter (`noElem`, defined through `getState` itself) and (b) that the textbook scan finds no complete tag in it
  (`noTagTB`); `wideOK2` is `wideOK` with that condition on the last stretch.
-/
namespace Chiritori
open Spec

/-- the automaton never has a complete tag pending: not on the way, not at the end -/
def noElem (ds de : List Char) : TState → List Char → Bool
  | st, [] => st != .dend []
  | st, c :: cs => st != .dend [] && noElem ds de (getState c ds de st).2 cs

/-- the textbook scan finds no complete tag: no start delimiter, or nothing behind it, or no end delimiter behind its
    first body character -/
def noTagTB (ds de u : List Char) : Bool :=
  match findSub ds u with
  | none => true
  | some i =>
    match u.drop (i + ds.length) with
    | [] => true
    | _ :: body => (findSub de body).isNone

def tailFit (ds de u : List Char) : Bool := noElem ds de .text u && noTagTB ds de u

def wideOK2 (ds de : List Char) (t : List Char) : List Piece → List Char → Bool
  | [], acc => tailFit ds de (acc ++ t)
  | .text s :: ps, acc => wideOK2 ds de t ps (acc ++ s)
  | .tag _ rest :: ps, acc => textFit ds acc && bodyFit de rest && wideOK2 ds de t ps []

theorem noElem_of_quietT (ds de : List Char) : ∀ (u : List Char) (st : TState), textish st = true →
    quietT ds st u = true → noElem ds de st u = true
  | [], st, ht, _ => by simpa [noElem] using ne_dend_of_textish ht
  | c :: cs, st, ht, hq => by
    obtain ⟨h1, h2⟩ := quietT_step ds de ht hq
    simpa [noElem, ne_dend_of_textish ht] using noElem_of_quietT ds de cs _ h1 h2

theorem noElem_text_free (d0 : Char) (dr de u : List Char) : ∀ (pre : List Char), (∀ c ∈ pre, c ≠ d0) →
    noElem (d0 :: dr) de .text (pre ++ u) = noElem (d0 :: dr) de .text u
  | [], _ => rfl
  | c :: cs, h => by
    rw [List.cons_append, noElem, getState_text_snd, checkDelimiterStart_of_ne (h c List.mem_cons_self)]
    exact noElem_text_free d0 dr de u cs (fun x hx => h x (List.mem_cons_of_mem _ hx))

theorem noElem_inDelim_free (ds : List Char) (e0 : Char) (er : List Char) : ∀ (body : List Char), (∀ c ∈ body, c ≠ e0) →
    noElem ds (e0 :: er) .inDelim body = true
  | [], _ => rfl
  | c :: cs, h => by
    rw [noElem, getState_inDelim, if_neg (h c List.mem_cons_self)]
    exact noElem_inDelim_free ds e0 er cs (fun x hx => h x (List.mem_cons_of_mem _ hx))

end Chiritori
