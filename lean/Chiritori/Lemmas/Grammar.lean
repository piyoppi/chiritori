import Chiritori.Spec.Tag
/-
  The 8-state machine of element_parser.rs on a rendered grammar tag.
-/
namespace Chiritori
open Spec

abbrev run (s : Pairs × EState) (cs : List Char) : Pairs × EState := cs.foldl elStep s

theorem run_append (s : Pairs × EState) (a b : List Char) : run s (a ++ b) = run (run s a) b :=
  List.foldl_append

theorem run_fix (s : Pairs × EState) (cs : List Char) (h : ∀ c ∈ cs, elStep s c = s) : run s cs = s := by
  induction cs with
  | nil => rfl
  | cons c cs ih =>
    rw [run, List.foldl_cons, h c List.mem_cons_self]
    exact ih fun x hx => h x (List.mem_cons_of_mem _ hx)

theorem sep_cases (c : Char) (h : isSep c = true) : c = ' ' ∨ c = '\n' := by
  simpa [isSep] using h

theorem nameChar_facts (c : Char) (h : nameChar c = true) : c ≠ ' ' ∧ c ≠ '\n' ∧ c ≠ '=' := by
  have : (¬c = ' ' ∧ ¬c = '\n') ∧ ¬c = '=' := by simpa [nameChar, not_or] using h
  exact ⟨this.1.1, this.1.2, this.2⟩

/-- the pairs a state stands for once a pending name is pushed -/
def flushS : Pairs × EState → Pairs
  | (pairs, .name a) => pairs ++ [(a, none)]
  | (pairs, _) => pairs

theorem parseBody_eq (t : List Char) :
    parseBody t = if (run ([], .nameBegin) t).2 = .parseError then none else
      match flushS (run ([], .nameBegin) t) with
      | [] => none
      | (n, _) :: rest => some ⟨n, rest.map fun (a, v) => ⟨a, v⟩⟩ := by
  unfold parseBody run
  generalize t.foldl elStep ([], .nameBegin) = s
  obtain ⟨pairs, st⟩ := s
  cases st <;> rfl

theorem run_seps_ready (pairs : Pairs) (st : EState) (hst : st = .nameBegin ∨ st = .nameEnd) (sep : List Char)
    (hsep : ∀ c ∈ sep, isSep c = true) : run (pairs, st) sep = (pairs, st) :=
  run_fix _ sep fun c hc => by
    rcases sep_cases c (hsep c hc) with rfl | rfl <;> rcases hst with rfl | rfl <;> rfl

theorem run_seps_name (pairs : Pairs) (a : List Char) (sep : List Char) (hne : sep ≠ [])
    (hsep : ∀ c ∈ sep, isSep c = true) : run (pairs, .name a) sep = (pairs ++ [(a, none)], .nameEnd) := by
  obtain ⟨c, cs, rfl⟩ := List.exists_cons_of_ne_nil hne
  have : elStep (pairs, .name a) c = (pairs ++ [(a, none)], .nameEnd) := by
    rcases sep_cases c (hsep c List.mem_cons_self) with rfl | rfl <;> rfl
  rw [run, List.foldl_cons, this]
  exact run_seps_ready _ _ (.inr rfl) cs fun x hx => hsep x (List.mem_cons_of_mem _ hx)

theorem run_name_chars (pairs : Pairs) (acc cs : List Char) (h : ∀ x ∈ cs, nameChar x = true) :
    run (pairs, .name acc) cs = (pairs, .name (acc ++ cs)) := by
  induction cs generalizing acc with
  | nil => simp [run]
  | cons c rest ih =>
    obtain ⟨h1, h2, h3⟩ := nameChar_facts c (h c List.mem_cons_self)
    have : elStep (pairs, .name acc) c = (pairs, .name (acc ++ [c])) := by simp [elStep, h1, h2, h3]
    rw [run, List.foldl_cons, this]
    simpa using ih (acc ++ [c]) fun x hx => h x (List.mem_cons_of_mem _ hx)

theorem run_name (pairs : Pairs) (st : EState) (hst : st = .nameBegin ∨ st = .nameEnd) (n : List Char) (hn : NameOK n) :
    run (pairs, st) n = (pairs, .name n) := by
  obtain ⟨c, cs, rfl, hc, hcs⟩ := hn
  simp only [nameStart, Bool.and_eq_true, Bool.not_eq_true', Bool.or_eq_false_iff, beq_eq_false_iff_ne] at hc
  obtain ⟨h0, hq1, hq2⟩ := hc
  obtain ⟨h1, h2, h3⟩ := nameChar_facts c h0
  have : elStep (pairs, st) c = (pairs, .name [c]) := by
    rcases hst with rfl | rfl <;> simp [elStep, h1, h2, h3, hq1, hq2]
  rw [run, List.foldl_cons, this]
  exact run_name_chars pairs [c] cs hcs

theorem setLastValue_append (pairs : Pairs) (n v : List Char) :
    setLastValue (pairs ++ [(n, none)]) v = pairs ++ [(n, some v)] := by
  simp [setLastValue]

/-- a quoted value up to its closing quote; `mk` is the state of the quote `q` -/
theorem run_value (mk : List Char → EState) (q : Char)
    (hstep : ∀ pairs acc c, elStep (pairs, mk acc) c =
      if c = q then (setLastValue pairs acc, .nameBegin) else (pairs, mk (acc ++ [c])))
    (pairs : Pairs) (acc v : List Char) (h : q ∉ v) :
    run (pairs, mk acc) (v ++ [q]) = (setLastValue pairs (acc ++ v), .nameBegin) := by
  induction v generalizing acc with
  | nil => simp [run, hstep]
  | cons c cs ih =>
    have hc : c ≠ q := fun e => h (e ▸ List.mem_cons_self)
    rw [List.cons_append, run, List.foldl_cons, hstep, if_neg hc]
    simpa using ih (acc ++ [c]) fun hh => h (List.mem_cons_of_mem _ hh)

/-- `[spaces] = [spaces] q value q` after a name -/
theorem run_quoted_tail (pairs : Pairs) (n : List Char) (l r : Nat) (q : Char) (v : List Char)
    (hq : q = '"' ∨ q = '\'') (hv : q ∉ v) :
    run (pairs, .name n) (List.replicate l ' ' ++ ('=' :: (List.replicate r ' ' ++ (q :: (v ++ [q])))))
      = (pairs ++ [(n, some v)], .nameBegin) := by
  -- up to `=`: the name is pushed, by the first space or by `=` itself
  have h1 : run (pairs, .name n) (List.replicate l ' ') = (pairs, .name n) ∨
      run (pairs, .name n) (List.replicate l ' ') = (pairs ++ [(n, none)], .nameEnd) := by
    cases l with
    | zero => exact .inl rfl
    | succ l => exact .inr (run_seps_name pairs n _ (by simp) (by simp [isSep]))
  have h2 : run (run (pairs, .name n) (List.replicate l ' ')) ['='] = (pairs ++ [(n, none)], .valueBegin) := by
    rcases h1 with h | h <;> rw [h] <;> rfl
  have h3 : run (pairs ++ [(n, none)], .valueBegin) (List.replicate r ' ') = (pairs ++ [(n, none)], .valueBegin) :=
    run_fix _ _ fun c hc => by rw [List.eq_of_mem_replicate hc]; rfl
  rw [run_append, ← List.singleton_append, run_append, h2, run_append, h3, ← setLastValue_append]
  rcases hq with rfl | rfl
  · exact run_value .valueDq '"' (fun _ _ _ => rfl) _ [] v hv
  · exact run_value .valueSq '\'' (fun _ _ _ => rfl) _ [] v hv

/-- between attributes: in a name or ready for one, no value pending -/
def GoodS (s : Pairs × EState) : Prop := (∃ a, s.2 = .name a) ∨ s.2 = .nameBegin

theorem run_seps (s : Pairs × EState) (hs : GoodS s) (sep : List Char) (hne : sep ≠ [])
    (hsep : ∀ c ∈ sep, isSep c = true) :
    ∃ st', (st' = .nameBegin ∨ st' = .nameEnd) ∧ run s sep = (flushS s, st') := by
  obtain ⟨pairs, st⟩ := s
  rcases hs with ⟨a, rfl : st = _⟩ | (rfl : st = _)
  · exact ⟨.nameEnd, .inr rfl, run_seps_name pairs a sep hne hsep⟩
  · exact ⟨.nameBegin, .inl rfl, run_seps_ready pairs _ (.inl rfl) sep hsep⟩

theorem run_attr (s : Pairs × EState) (hs : GoodS s) (sep : List Char) (a : AttrS)
    (hne : sep ≠ []) (hsep : ∀ c ∈ sep, isSep c = true) (ha : a.ok) :
    GoodS (run s (sep ++ a.render)) ∧ flushS (run s (sep ++ a.render)) = flushS s ++ [a.parsed] := by
  obtain ⟨st', hst', hrun⟩ := run_seps s hs sep hne hsep
  rw [run_append, hrun]
  cases a with
  | bare n =>
    rw [AttrS.render, run_name _ st' hst' n ha]
    exact ⟨.inl ⟨n, rfl⟩, rfl⟩
  | quoted n l r q v =>
    obtain ⟨hn, hq, hv⟩ := ha
    rw [AttrS.render, run_append, run_name _ st' hst' n hn, run_quoted_tail _ n l r q v hq hv]
    exact ⟨.inr rfl, rfl⟩

theorem run_attrs (attrs : List (List Char × AttrS)) (s : Pairs × EState) (hs : GoodS s)
    (h : ∀ sa ∈ attrs, sa.1 ≠ [] ∧ (∀ c ∈ sa.1, isSep c = true) ∧ sa.2.ok) :
    GoodS (run s (renderAttrs attrs)) ∧
    flushS (run s (renderAttrs attrs)) = flushS s ++ attrs.map (fun sa => sa.2.parsed) := by
  induction attrs generalizing s with
  | nil => exact ⟨hs, by simp [renderAttrs]⟩
  | cons sa rest ih =>
    obtain ⟨h1, h2, h3⟩ := h sa List.mem_cons_self
    obtain ⟨g1, g2⟩ := run_attr s hs sa.1 sa.2 h1 h2 h3
    obtain ⟨i1, i2⟩ := ih _ g1 fun x hx => h x (List.mem_cons_of_mem _ hx)
    rw [renderAttrs, ← List.append_assoc, run_append]
    exact ⟨i1, by rw [i2, g2]; simp⟩

theorem parseBody_render (t : TagS) (ht : t.ok) : parseBody t.render = some t.expected := by
  obtain ⟨hn, hattrs, hpad⟩ := ht
  -- padding and name, then the attributes
  have h1 : run ([], .nameBegin) (List.replicate t.padL ' ' ++ t.name) = ([], .name t.name) := by
    rw [run_append, run_seps_ready _ _ (.inl rfl) _ (by simp [isSep]), run_name _ _ (.inl rfl) t.name hn]
  obtain ⟨g1, g2⟩ := run_attrs t.attrs ([], .name t.name) (.inl ⟨_, rfl⟩) hattrs
  -- the trailing padding pushes the last name if there is any, and changes nothing otherwise
  have h2 : (run (run ([], .name t.name) (renderAttrs t.attrs)) t.padR).2 ≠ .parseError ∧
      flushS (run (run ([], .name t.name) (renderAttrs t.attrs)) t.padR)
        = flushS (run ([], .name t.name) (renderAttrs t.attrs)) := by
    by_cases hp : t.padR = []
    · rw [hp]
      exact ⟨by rcases g1 with ⟨a, h⟩ | h <;> simp [run, h], rfl⟩
    · obtain ⟨st', hst', hrun⟩ := run_seps _ g1 t.padR hp hpad
      rw [hrun]
      rcases hst' with rfl | rfl <;> exact ⟨by simp, rfl⟩
  rw [parseBody_eq, TagS.render, ← List.append_assoc, run_append, h1, run_append, if_neg h2.1, h2.2, g2]
  simp [flushS, TagS.expected]

end Chiritori
