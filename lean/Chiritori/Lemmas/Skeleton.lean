import Chiritori.Lemmas.Reparse
/-
  The element skeleton of a parse does not depend on the text tokens: two token lists with the same tags, in the
  same order, parse to forests with the same elements (same tags, same nesting).
-/
namespace Chiritori
open Spec

inductive Skel where
  | tag (v : List Char)
  | elem (el : Element) (sv ev : List Char) (ch : List Skel)

mutual
def skelParts : List Part → List Skel
  | [] => []
  | p :: ps => skelPart p ++ skelParts ps
def skelPart : Part → List Skel
  | .text t => if t.kind = .element then [.tag t.value] else []
  | .element el st en ch => [.elem el st.value en.value (skelParts ch)]
end

theorem skelParts_append (a b : List Part) : skelParts (a ++ b) = skelParts a ++ skelParts b := by
  induction a with
  | nil => rfl
  | cons p ps ih => simp [skelParts, ih]

/-! The machine of `stackParse` on skeletons: a frame keeps the kind and text of its tag (what `skelPart` needs once the
    frame is demoted), text tokens do nothing, and a tag is known by its text alone. `skelState` maps every operation of
    the machine on forests to the operation of the same name here. -/

structure SFrame where
  kind : TKind
  v : List Char
  el : Element
  parts : List Skel

def skelFrame (f : Frame) : SFrame := ⟨f.tok.kind, f.tok.value, f.el, skelParts f.parts⟩

def skelState (st : List Frame × List Part) : List SFrame × List Skel := (st.1.map skelFrame, skelParts st.2)

def skAppend (S : List SFrame) (r ps : List Skel) : List SFrame × List Skel :=
  match S with
  | [] => ([], r ++ ps)
  | f :: fs => ({ f with parts := f.parts ++ ps } :: fs, r)

def skDemote (f : SFrame) : List Skel := if f.kind = .element then [.tag f.v] else []

def skClose (name : List Char) (cv : List Char) : List SFrame → List Skel → List Skel → Option (List SFrame × List Skel)
  | [], _, _ => none
  | f :: fs, root, hoisted =>
    if f.el.name = name then some (skAppend fs root [.elem f.el f.v cv (f.parts ++ hoisted)])
    else skClose name cv fs root (skDemote f ++ (f.parts ++ hoisted))

def skFinish : List SFrame → List Skel → List Skel → List Skel
  | [], hoisted, root => root ++ hoisted
  | f :: fs, hoisted, root => skFinish fs (skDemote f ++ (f.parts ++ hoisted)) root

def tagTok (v : List Char) : Token := ⟨.element, v, 0, 0, 0, 0⟩

def skStep (ds de : List Char) (ss : List SFrame × List Skel) (v : List Char) : List SFrame × List Skel :=
  match elparse ds de (tagTok v) with
  | none => skAppend ss.1 ss.2 [.tag v]
  | some el =>
    if el.name.head? = some '/' ∧ ss.1.any (fun f => f.el.name == trimSlashes el.name) then
      match skClose (trimSlashes el.name) v ss.1 ss.2 [] with
      | some r => r
      | none => ss
    else (⟨.element, v, el, []⟩ :: ss.1, ss.2)

theorem elparse_tagTok (ds de : List Char) (t : Token) (hk : t.kind = .element) :
    elparse ds de (tagTok t.value) = elparse ds de t := by
  simp [elparse, tagTok, hk]

theorem skelState_appendTo (S : List Frame) (r ps : List Part) :
    skelState (appendTo S r ps) = skAppend (S.map skelFrame) (skelParts r) (skelParts ps) := by
  cases S <;> simp [appendTo, skelState, skAppend, skelFrame, skelParts_append]

theorem skelParts_demote (f : Frame) (rest : List Part) :
    skelParts (.text f.tok :: rest) = skDemote (skelFrame f) ++ skelParts rest := rfl

theorem skel_closeFrame (name : List Char) (c : Token) (S : List Frame) (r h : List Part) :
    (closeFrame name c S r h).map skelState =
      skClose name c.value (S.map skelFrame) (skelParts r) (skelParts h) := by
  induction S generalizing h with
  | nil => rfl
  | cons f fs ih =>
    by_cases hn : f.el.name = name
    · rw [closeFrame_cons_eq name c f fs r h hn, Option.map_some, skelState_appendTo]
      simp [skClose, skelFrame, hn, skelParts, skelPart, skelParts_append]
    · rw [closeFrame_cons_ne name c f fs r h hn, ih, skelParts_demote, skelParts_append]
      simp [skClose, skelFrame, hn]

theorem skel_finishStack (S : List Frame) (h r : List Part) :
    skelParts (finishStack S h r) = skFinish (S.map skelFrame) (skelParts h) (skelParts r) := by
  induction S generalizing h with
  | nil => exact skelParts_append r h
  | cons f fs ih => exact (ih _).trans (by rw [skelParts_demote, skelParts_append]; rfl)

theorem any_skelFrame (S : List Frame) (x : List Char) :
    (S.map skelFrame).any (fun f => f.el.name == x) = S.any (fun f => f.el.name == x) := by
  simp [List.any_map, Function.comp_def, skelFrame]

theorem skelState_stackStep (ds de : List Char) (st : List Frame × List Part) (t : Token) :
    skelState (stackStep ds de st t) =
      if t.kind = .element then skStep ds de (skelState st) t.value else skelState st := by
  obtain ⟨S, r⟩ := st
  split
  · rename_i hk
    simp only [stackStep, skStep, elparse_tagTok ds de t hk]
    cases he : elparse ds de t with
    | none =>
      show skelState (appendTo S r [.text t]) = _
      rw [skelState_appendTo]
      simp [skelState, skelParts, skelPart, hk]
    | some el =>
      simp only [skelState, any_skelFrame]
      split
      · rw [← skelParts, ← skel_closeFrame]
        cases closeFrame (trimSlashes el.name) t S r [] <;> rfl
      · simp [skelFrame, skelParts, hk]
  · rename_i hk
    have he : elparse ds de t = none := by
      cases h : t.kind with
      | text => simp [elparse, h]
      | element => exact absurd h hk
    rw [stackStep_text ds de S r t he, skelState_appendTo]
    cases S <;> simp [skelParts, skelPart, hk, skAppend, skelState]

def tagValues (toks : List Token) : List (List Char) := (toks.filter fun t => t.kind = .element).map (·.value)

theorem skelState_runM (ds de : List Char) (toks : List Token) (st : List Frame × List Part) :
    skelState (runM ds de st toks) = (tagValues toks).foldl (skStep ds de) (skelState st) := by
  induction toks generalizing st with
  | nil => rfl
  | cons t ts ih =>
    rw [runM_cons, ih, skelState_stackStep]
    by_cases hk : t.kind = .element <;> simp [tagValues, hk]

theorem skel_stackParse (ds de : List Char) (toks : List Token) :
    skelParts (stackParse ds de toks) =
      skFinish ((tagValues toks).foldl (skStep ds de) ([], [])).1 [] ((tagValues toks).foldl (skStep ds de) ([], [])).2 := by
  rw [← show skelState ([], []) = ([], []) from rfl, ← skelState_runM]
  exact skel_finishStack _ [] _

/-- the same tags in the same order give the same skeleton -/
theorem skel_congr (ds de : List Char) (t1 t2 : List Token) (h : tagValues t1 = tagValues t2) :
    skelParts (parse ds de t1) = skelParts (parse ds de t2) := by
  rw [parse_eq_stackParse, parse_eq_stackParse, skel_stackParse, skel_stackParse, h]

end Chiritori
