import Chiritori.Lemmas.Exact
/-
  Laminarity of the Ready and Pending regions (C17): in a document in which no tag stands on a wrapper line of an
  unwrappable unwrap-block (`WrapFree`, the C15 space), a pending region that begins before a ready region ends
  and is not wholly inside it begins no later than that ready region.  This is the hypothesis under which the
  single-cursor merge of `build_remove_marker_all` emits its items in source order.  It is proved of the reference
  regions `refRegions` of two selections that exclude each other, which the merged markers are (`selTree_exact`).
-/
namespace Chiritori
open Spec

-- `r` a ready region, `p` a pending one
def LamR (r p : Rng) : Prop :=
  p.1 < r.2 → ¬ (r.1 ≤ p.1 ∧ p.1 < r.2 ∧ r.1 ≤ p.2 ∧ p.2 < r.2) → p.1 ≤ r.1

def LamAllR (R P : List Rng) : Prop := ∀ r ∈ R, ∀ p ∈ P, LamR r p

theorem LamAllR_append_left (a b P : List Rng) (h1 : LamAllR a P) (h2 : LamAllR b P) : LamAllR (a ++ b) P := by
  intro r hr p hp
  rcases List.mem_append.mp hr with h | h
  · exact h1 r h p hp
  · exact h2 r h p hp

theorem LamAllR_append_right (R a b : List Rng) (h1 : LamAllR R a) (h2 : LamAllR R b) : LamAllR R (a ++ b) := by
  intro r hr p hp
  rcases List.mem_append.mp hp with h | h
  · exact h1 r hr p h
  · exact h2 r hr p h

theorem LamAllR_sep (R P : List Rng) (mid : Nat) (hR : ∀ r ∈ R, r.2 ≤ mid) (hP : ∀ p ∈ P, mid ≤ p.1) : LamAllR R P := by
  intro r hr p hp h1 _
  have := hR r hr; have := hP p hp; omega

theorem LamAllR_sep' (R P : List Rng) (mid : Nat) (hR : ∀ r ∈ R, mid ≤ r.1) (hP : ∀ p ∈ P, p.1 < p.2 ∧ p.2 ≤ mid) :
    LamAllR R P := by
  intro r hr p hp _ _
  have := hR r hr; have := hP p hp; omega

theorem refRegions_bounds (sel : Element → Bool) (b : Bytes) :
    (∀ p lo hi, BSpan (flattenPart p) lo hi → hi ≤ b.length → WrapFreePart b p →
      ∀ q ∈ refRegionsPart sel b p, lo ≤ q.1 ∧ q.1 < q.2 ∧ q.2 ≤ hi) ∧
    (∀ ps lo hi, BSpan (flattenParts ps) lo hi → hi ≤ b.length → WrapFree b ps →
      ∀ q ∈ refRegions sel b ps, lo ≤ q.1 ∧ q.1 < q.2 ∧ q.2 ≤ hi) := by
  constructor
  · intro p lo hi hs hlen hw
    rw [← (selTree_exact sel b).1 p lo hi hs hlen hw]
    exact rangesOf_bounds _ lo hi (merge_spec.2 _ lo hi ((selTree_geo sel b).1 p lo hi hs hlen)).1
  · intro ps lo hi hs hlen hw
    rw [← (selTree_exact sel b).2 ps lo hi hs hlen hw]
    exact rangesOf_bounds _ lo hi (merge_spec.2 _ lo hi ((selTree_geo sel b).2 ps lo hi hs hlen)).1

theorem refRegions_lam (s1 s2 : Element → Bool) (hdis : ∀ el, s1 el = true → s2 el = false) (b : Bytes) :
    (∀ p lo hi, BSpan (flattenPart p) lo hi → hi ≤ b.length → WrapFreePart b p →
      LamAllR (refRegionsPart s1 b p) (refRegionsPart s2 b p)) ∧
    (∀ ps lo hi, BSpan (flattenParts ps) lo hi → hi ≤ b.length → WrapFree b ps →
      LamAllR (refRegions s1 b ps) (refRegions s2 b ps)) := by
  apply part_parts_induction
  · intro t lo hi _ _ _ r hr; cases hr
  · intro el st en ch ih lo hi hs hlen hw
    obtain ⟨hst, hst2, hmid, hch, hen2, hen3, hlen'⟩ := BSpan_element el st en ch lo hi _ hs hlen
    obtain ⟨hwrap, hwch⟩ := hw
    have ihc := ih st.bstop en.bstart hch hlen' hwch
    have bch : ∀ s, ∀ q ∈ refRegions s b ch, st.bstop ≤ q.1 ∧ q.1 < q.2 ∧ q.2 ≤ en.bstart := fun s =>
      (refRegions_bounds s b).2 ch st.bstop en.bstart hch hlen' hwch
    rcases createRange_cases b el st en (Nat.zero_lt_of_lt hst2) hlen' with
      ⟨_, hx⟩ | ⟨_, _, hx⟩ | ⟨e, s, q2, q3, q4, _, _, _, hx⟩
    · simp only [refRegionsPart, hx, ite_self]
      exact ihc
    · simp only [refRegionsPart, hx]
      cases h1 : s1 el with
      | true =>
        rw [hdis el h1, if_pos rfl, if_neg Bool.false_ne_true]
        -- a region of the children lies wholly inside the element's
        intro r hr p hp _ hout
        cases List.mem_singleton.mp hr
        obtain ⟨b1, b2, b3⟩ := bch s2 p hp
        have b4 := Nat.lt_of_le_of_lt b3 hen2
        exact absurd ⟨Nat.le_trans (Nat.le_of_lt hst2) b1, Nat.lt_trans b2 b4,
          Nat.le_trans (Nat.le_of_lt hst2) (Nat.le_trans b1 (Nat.le_of_lt b2)), b4⟩ hout
      | false =>
        rw [if_neg Bool.false_ne_true]
        cases s2 el with
        | false => exact ihc
        | true =>
          rw [if_pos rfl]
          intro r hr p hp _ _
          cases List.mem_singleton.mp hp
          exact Nat.le_trans (Nat.le_of_lt hst2) (bch s1 r hr).1
    · -- the regions of the children lie between the two wrapper parts
      have inn : ∀ s', ∀ q ∈ refRegions s' b ch, e ≤ q.1 ∧ q.1 < q.2 ∧ q.2 < s := fun s' q hq => by
        rw [← (selTree_exact s' b).2 ch st.bstop en.bstart hch hlen' hwch] at hq
        obtain ⟨m, hm, rfl⟩ := mem_rangesOf _ q hq
        exact selTree_inner s' b ch st.bstop en.bstart hch hlen' e s (hwrap _ _ hx) m hm
      simp only [refRegionsPart, hx]
      cases h1 : s1 el with
      | true =>
        rw [hdis el h1, if_pos rfl, if_neg Bool.false_ne_true]
        refine LamAllR_append_left _ _ _ (LamAllR_append_left _ _ _ ?_ ihc) ?_
        · exact LamAllR_sep _ _ e (fun x hx => by cases List.mem_singleton.mp hx; exact Nat.le_refl _)
            fun p hp => (inn s2 p hp).1
        · exact LamAllR_sep' _ _ s (fun x hx => by cases List.mem_singleton.mp hx; exact Nat.le_refl _)
            fun p hp => ⟨(inn s2 p hp).2.1, Nat.le_of_lt (inn s2 p hp).2.2⟩
      | false =>
        rw [if_neg Bool.false_ne_true]
        cases s2 el with
        | false => exact ihc
        | true =>
          rw [if_pos rfl]
          refine LamAllR_append_right _ _ _ (LamAllR_append_right _ _ _ ?_ ihc) ?_
          · exact LamAllR_sep' _ _ e (fun r hr => (inn s1 r hr).1)
              fun x hx => by cases List.mem_singleton.mp hx; exact ⟨Nat.lt_trans hst2 q2, Nat.le_refl _⟩
          · exact LamAllR_sep _ _ s (fun r hr => Nat.le_of_lt (inn s1 r hr).2.2)
              fun x hx => by cases List.mem_singleton.mp hx; exact Nat.le_refl _
  · intro lo hi _ _ _ r hr; cases hr
  · intro p ps hp hps lo hi hs hlen hw
    obtain ⟨mid, hs1, hs2, hmid⟩ := BSpan_parts_cons p ps lo hi _ hs hlen
    have bp := fun s => (refRegions_bounds s b).1 p lo mid hs1 hmid hw.1
    have bps := fun s => (refRegions_bounds s b).2 ps mid hi hs2 hlen hw.2
    simp only [refRegions]
    refine LamAllR_append_left _ _ _ (LamAllR_append_right _ _ _ (hp lo mid hs1 hmid hw.1) ?_)
      (LamAllR_append_right _ _ _ ?_ (hps mid hi hs2 hlen hw.2))
    · exact LamAllR_sep _ _ mid (fun r hr => (bp s1 r hr).2.2) fun q hq => (bps s2 q hq).1
    · exact LamAllR_sep' _ _ mid (fun r hr => (bps s1 r hr).1) fun q hq => (bp s2 q hq).2

theorem collect_lam (cfg : Cfg) (b : Bytes) : ∀ (parts : List Part) (lo hi : Nat),
    BSpan (flattenParts parts) lo hi → hi ≤ b.length → WrapFree b parts →
    LamAllR (rangesOf (mergeMarkers (collect cfg b true parts).1 []))
      (rangesOf (mergeMarkers (collect cfg b true parts).2 [])) := by
  intro parts lo hi hs hlen hw
  obtain ⟨e1, e2⟩ := collect_exact cfg b parts lo hi hs hlen hw
  rw [e1, e2]
  exact (refRegions_lam _ _ (holds_not_pending cfg) b).2 parts lo hi hs hlen hw

theorem collectPart_lam (cfg : Cfg) (b : Bytes) : ∀ (p : Part) (lo hi : Nat),
    BSpan (flattenPart p) lo hi → hi ≤ b.length → WrapFreePart b p →
    LamAllR (rangesOf (mergeMarkers (collectPart cfg b true p).1 []))
      (rangesOf (mergeMarkers (collectPart cfg b true p).2 [])) := by
  intro p lo hi hs hlen hw
  obtain ⟨e1, e2⟩ := collectPart_exact cfg b p lo hi hs hlen hw
  rw [e1, e2]
  exact (refRegions_lam _ _ (holds_not_pending cfg) b).1 p lo hi hs hlen hw

end Chiritori
