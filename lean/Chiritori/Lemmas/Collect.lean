import Chiritori.Lemmas.MarkerProps
import Chiritori.Lemmas.Tree
import Chiritori.Lemmas.Lines
import Chiritori.Lemmas.Decision
/-
  `collect_removable_ranges`: both range trees of a parse forest are forests of selected elements (`selTree`); such
  a forest is geometrically well formed and covers exactly the extents of the selected elements.
-/
namespace Chiritori
open Spec

/-- tokens are contiguous in bytes from `lo` to `hi`, none empty -/
def BSpan : List Token → Nat → Nat → Prop
  | [], lo, hi => lo = hi
  | t :: ts, lo, hi => t.bstart = lo ∧ t.bstart < t.bstop ∧ BSpan ts t.bstop hi

theorem BSpan_le (ts : List Token) (lo hi : Nat) (h : BSpan ts lo hi) : lo ≤ hi := by
  induction ts generalizing lo with
  | nil => exact Nat.le_of_eq h
  | cons t ts ih =>
    obtain ⟨h1, h2, h3⟩ := h
    exact Nat.le_trans (h1 ▸ Nat.le_of_lt h2) (ih t.bstop h3)

theorem BSpan_append (a b : List Token) (lo hi : Nat) :
    BSpan (a ++ b) lo hi ↔ ∃ mid, BSpan a lo mid ∧ BSpan b mid hi := by
  induction a generalizing lo with
  | nil => simp [BSpan]
  | cons t ts ih =>
    simp only [List.cons_append, BSpan, ih]
    constructor
    · rintro ⟨h1, h2, mid, h3, h4⟩; exact ⟨mid, ⟨h1, h2, h3⟩, h4⟩
    · rintro ⟨mid, ⟨h1, h2, h3⟩, h4⟩; exact ⟨h1, h2, mid, h3, h4⟩

theorem BSpan_of_chain (ts : List Token) (s bs : Nat) (h : ChainFrom ts s bs) : BSpan ts bs (bs + blen (flat ts)) := by
  induction ts generalizing s bs with
  | nil => simp [BSpan]
  | cons t ts ih =>
    simp only [ChainFrom] at h
    obtain ⟨_, h2, h3, _, h5, h6⟩ := h
    refine ⟨h2, by rw [h2, h5]; exact Nat.lt_add_of_pos_right (blen_pos_of_ne_nil h3), ?_⟩
    have := ih t.stop t.bstop h6
    simp only [flat_cons, blen_append]
    rw [h5] at this ⊢
    rwa [Nat.add_assoc] at this

theorem BSpan_parts_cons (p : Part) (ps : List Part) (lo hi n : Nat) (h : BSpan (flattenParts (p :: ps)) lo hi)
    (hn : hi ≤ n) : ∃ mid, BSpan (flattenPart p) lo mid ∧ BSpan (flattenParts ps) mid hi ∧ mid ≤ n := by
  simp only [flattenParts, BSpan_append] at h
  obtain ⟨mid, h1, h2⟩ := h
  exact ⟨mid, h1, h2, Nat.le_trans (BSpan_le _ mid hi h2) hn⟩

theorem BSpan_element_iff (el : Element) (st en : Token) (ch : List Part) (lo hi : Nat) :
    BSpan (flattenPart (.element el st en ch)) lo hi ↔ st.bstart = lo ∧ st.bstart < st.bstop ∧
      ∃ mid, BSpan (flattenParts ch) st.bstop mid ∧ en.bstart = mid ∧ en.bstart < en.bstop ∧ en.bstop = hi := by
  simp only [flattenPart, List.cons_append, BSpan, BSpan_append]

theorem BSpan_element (el : Element) (st en : Token) (ch : List Part) (lo hi n : Nat)
    (h : BSpan (flattenPart (.element el st en ch)) lo hi) (hn : hi ≤ n) :
    st.bstart = lo ∧ st.bstart < st.bstop ∧ st.bstop ≤ en.bstart ∧ BSpan (flattenParts ch) st.bstop en.bstart ∧
      en.bstart < en.bstop ∧ en.bstop = hi ∧ en.bstart ≤ n := by
  obtain ⟨h1, h2, mid, h3, rfl, h5, h6⟩ := (BSpan_element_iff el st en ch lo hi).mp h
  exact ⟨h1, h2, BSpan_le _ _ _ h3, h3, h5, h6, Nat.le_trans (Nat.le_of_lt h5) (h6 ▸ hn)⟩

theorem unwrapParts_some (b : Bytes) (st en : Token) (h t : Rng) (hu : unwrapParts b st en = some (h, t)) :
    ∃ e s, h = (st.bstart, e) ∧ t = (s, en.bstop) ∧ st.bstop < e ∧ e < s ∧ s < en.bstart := by
  obtain ⟨p1, p2, q1, q2, hp1, hp2, hq1, hq2, hv, rfl, rfl⟩ := (unwrapParts_eq_some_iff b st en h t).mp hu
  have f1 := List.find?_some hp1
  have f2 := List.find?_some hp2
  have f3 := (List.mem_filter.mp (List.mem_of_getLast? hq1)).2
  have f4 := (List.mem_filter.mp (List.mem_of_getLast? hq2)).2
  simp only [decide_eq_true_eq] at f1 f2 f3 f4
  exact ⟨p2, q2 + 1, rfl, rfl, Nat.lt_of_le_of_lt f1 f2, Nat.lt_succ_of_le hv, Nat.lt_of_le_of_lt f4.1 f3.1⟩

theorem unwrapParts_geo (b : Bytes) (st en : Token) (h : Rng) (t : Rng) (hu : unwrapParts b st en = some (h, t)) :
    h.1 = st.bstart ∧ st.bstop < h.2 ∧ h.2 < t.1 ∧ t.1 < en.bstart ∧ t.2 = en.bstop := by
  obtain ⟨e, s, rfl, rfl, g⟩ := unwrapParts_some b st en h t hu
  exact ⟨rfl, g.1, g.2.1, g.2.2, rfl⟩

/-- What the strategy builds for an element, against its reference extent: nothing (an unwrap-block that cannot be
    unwrapped, an element without bytes), the whole element, or the two wrapper parts of the specification. -/
theorem createRange_cases (b : Bytes) (el : Element) (st en : Token)
    (h1 : 0 < st.bstop) (h2 : en.bstart ≤ b.length) :
    ((∃ r, createRange b el st en = (r, none) ∧ r.isEmpty = true) ∧ extentOf b el st en = []) ∨
    (st.bstart < en.bstop ∧ createRange b el st en = ((st.bstart, en.bstop), none) ∧
      extentOf b el st en = [(st.bstart, en.bstop)]) ∨
    (∃ e s, st.bstop < e ∧ e < s ∧ s < en.bstart ∧ hasAttr el "unwrap-block" = true ∧
      unwrapParts b st en = some ((st.bstart, e), (s, en.bstop)) ∧
      createRange b el st en = ((st.bstart, e), some (s, en.bstop)) ∧
      extentOf b el st en = [(st.bstart, e), (s, en.bstop)]) := by
  unfold createRange extentOf
  rw [show (el.attrs.any fun a => a.name == "unwrap-block".toList) = hasAttr el "unwrap-block" from rfl]
  cases hu : hasAttr el "unwrap-block" with
  | true =>
    rw [if_pos rfl, if_pos rfl, buildUnwrap_eq b st en h1 h2]
    cases hp : unwrapParts b st en with
    | none => exact Or.inl ⟨⟨_, rfl, decide_eq_true (Nat.le_refl _)⟩, rfl⟩
    | some ht =>
      obtain ⟨e, s, he, hs, g⟩ := unwrapParts_some b st en ht.1 ht.2 hp
      cases ht; cases he; cases hs
      exact Or.inr (Or.inr ⟨e, s, g.1, g.2.1, g.2.2, rfl, rfl, rfl, rfl⟩)
  | false =>
    rw [if_neg Bool.false_ne_true, if_neg Bool.false_ne_true]
    by_cases h0 : st.bstart < en.bstop
    · rw [if_pos h0]; exact Or.inr (Or.inl ⟨h0, rfl, rfl⟩)
    · rw [if_neg h0]; exact Or.inl ⟨⟨_, rfl, decide_eq_true (Nat.le_of_not_lt h0)⟩, rfl⟩

theorem Rng.not_isEmpty (r : Rng) (h : r.1 < r.2) : r.isEmpty = false :=
  decide_eq_false (Nat.not_le.mpr h)

theorem extentOf_eq_createRange (b : Bytes) (el : Element) (st en : Token)
    (h1 : 0 < st.bstop) (h2 : en.bstart ≤ b.length) :
    extentOf b el st en =
      match createRange b el st en with
      | (r, some t) => [r, t]
      | (r, none) => if r.isEmpty then [] else [r] := by
  rcases createRange_cases b el st en h1 h2 with ⟨⟨r, hcr, he⟩, hx⟩ | ⟨h0, hcr, hx⟩ | ⟨e, s, _, _, _, _, _, hcr, hx⟩
  · rw [hcr, hx]; exact (if_pos he).symm
  · rw [hcr, hx]; exact (if_neg (by rw [Rng.not_isEmpty _ h0]; exact Bool.false_ne_true)).symm
  · rw [hcr, hx]

mutual
/-- The range tree of the elements that `sel` selects and whose strategy yields a non-empty range: one node per
    such element, holding the trees of its descendants; the trees of any other element's descendants take its place. -/
def selTree (sel : Element → Bool) (b : Bytes) : List Part → List RTree
  | [] => []
  | p :: ps => selTreePart sel b p ++ selTree sel b ps
def selTreePart (sel : Element → Bool) (b : Bytes) : Part → List RTree
  | .text _ => []
  | .element el st en ch =>
    if !(createRange b el st en).1.isEmpty && sel el then
      [.node (createRange b el st en).1 (createRange b el st en).2 (selTree sel b ch)]
    else selTree sel b ch
end

theorem collectPart_element (cfg : Cfg) (b : Bytes) (all : Bool) (el : Element) (st en : Token) (ch : List Part) :
    collectPart cfg b all (.element el st en ch) =
      if (createRange b el st en).1.isEmpty then collect cfg b all ch
      else if conditionHolds cfg el then
        ([.node (createRange b el st en).1 (createRange b el st en).2 (collect cfg b all ch).1], (collect cfg b all ch).2)
      else if all && conditionPending cfg el then
        ((collect cfg b all ch).1, [.node (createRange b el st en).1 (createRange b el st en).2 (collect cfg b all ch).2])
      else collect cfg b all ch := by
  simp only [collectPart]
  rw [elementRange_eq]
  cases (createRange b el st en).1.isEmpty with
  | true => rfl
  | false => cases conditionHolds cfg el <;> cases (all && conditionPending cfg el) <;> rfl

theorem holds_not_pending (cfg : Cfg) (el : Element) (h : conditionHolds cfg el = true) :
    conditionPending cfg el = false := by
  simp only [conditionPending, h, Bool.not_true, Bool.and_false]

/-- The Ready tree is the forest of the elements whose condition holds, the Pending tree (when asked for) that of
    the registered elements whose condition does not. -/
theorem collect_eq_selTree (cfg : Cfg) (b : Bytes) (all : Bool) :
    (∀ p, collectPart cfg b all p =
      (selTreePart (conditionHolds cfg) b p, selTreePart (fun el => all && conditionPending cfg el) b p)) ∧
    (∀ ps, collect cfg b all ps =
      (selTree (conditionHolds cfg) b ps, selTree (fun el => all && conditionPending cfg el) b ps)) := by
  apply part_parts_induction
  · intro t; rfl
  · intro el st en ch ih
    -- the two selections exclude each other
    have hp : conditionHolds cfg el = true → (fun el => all && conditionPending cfg el) el = false := fun h => by
      simp only [holds_not_pending cfg el h, Bool.and_false]
    rw [collectPart_element, ih,
      show (all && conditionPending cfg el) = (fun el => all && conditionPending cfg el) el from rfl]
    generalize (fun el => all && conditionPending cfg el) = selP at hp ⊢
    simp only [selTreePart]
    cases (createRange b el st en).1.isEmpty with
    | true => rfl
    | false =>
      cases hc : conditionHolds cfg el with
      | true => rw [hp hc]; rfl
      | false => cases selP el <;> rfl
  · rfl
  · intro p ps hp hps
    simp only [collect, selTree, hp, hps]

theorem selTreePart_cases (sel : Element → Bool) (b : Bytes) (el : Element) (st en : Token) (ch : List Part)
    (h1 : st.bstart < st.bstop) (h2 : en.bstart ≤ b.length) :
    (selTreePart sel b (.element el st en ch) = selTree sel b ch ∧ (sel el = true → extentOf b el st en = [])) ∨
    (sel el = true ∧ extentOf b el st en = [(st.bstart, en.bstop)] ∧
      selTreePart sel b (.element el st en ch) = [.node (st.bstart, en.bstop) none (selTree sel b ch)]) ∨
    (sel el = true ∧ ∃ e s, st.bstop < e ∧ e < s ∧ s < en.bstart ∧ hasAttr el "unwrap-block" = true ∧
      unwrapParts b st en = some ((st.bstart, e), (s, en.bstop)) ∧
      extentOf b el st en = [(st.bstart, e), (s, en.bstop)] ∧
      selTreePart sel b (.element el st en ch) = [.node (st.bstart, e) (some (s, en.bstop)) (selTree sel b ch)]) := by
  simp only [selTreePart]
  cases hs : sel el with
  | false => exact Or.inl ⟨by rw [Bool.and_false]; rfl, fun h => by cases h⟩
  | true =>
    rw [Bool.and_true]
    rcases createRange_cases b el st en (Nat.zero_lt_of_lt h1) h2 with
      ⟨⟨r, hcr, he⟩, hx⟩ | ⟨h0, hcr, hx⟩ | ⟨e, s, q2, q3, q4, ha, hu, hcr, hx⟩
    · exact Or.inl ⟨by rw [hcr, he]; rfl, fun _ => hx⟩
    · exact Or.inr (Or.inl ⟨rfl, hx, by rw [hcr, Rng.not_isEmpty _ h0]; rfl⟩)
    · exact Or.inr (Or.inr ⟨rfl, e, s, q2, q3, q4, ha, hu, hx,
        by rw [hcr, Rng.not_isEmpty _ (Nat.lt_trans h1 q2)]; rfl⟩)

theorem selTree_geo (sel : Element → Bool) (b : Bytes) :
    (∀ p lo hi, BSpan (flattenPart p) lo hi → hi ≤ b.length → RGeo (selTreePart sel b p) lo hi) ∧
    (∀ ps lo hi, BSpan (flattenParts ps) lo hi → hi ≤ b.length → RGeo (selTree sel b ps) lo hi) := by
  apply part_parts_induction
  · intro t lo hi hs _
    exact BSpan_le _ lo hi hs
  · intro el st en ch ih lo hi hs hlen
    obtain ⟨hst, hst2, hmid, hch, hen2, hen3, hlen'⟩ := BSpan_element el st en ch lo hi _ hs hlen
    have gch := ih st.bstop en.bstart hch hlen'
    rcases selTreePart_cases sel b el st en ch hst2 hlen' with
      ⟨he, _⟩ | ⟨_, _, he⟩ | ⟨_, e, s, q2, q3, q4, _, _, _, he⟩
    · rw [he]
      exact RGeo_widen _ _ _ _ _ gch (hst ▸ Nat.le_of_lt hst2) (hen3 ▸ Nat.le_of_lt hen2)
    · rw [he]
      exact ⟨hi, ⟨Nat.le_of_eq hst.symm, Nat.lt_trans hst2 (Nat.lt_of_le_of_lt hmid hen2), Nat.le_of_eq hen3,
        RGeo_widen _ _ _ _ _ gch (Nat.le_of_lt hst2) (Nat.le_of_lt hen2)⟩, Nat.le_refl _⟩
    · rw [he]
      exact ⟨hi, ⟨Nat.le_of_eq hst.symm, Nat.lt_trans hst2 q2, q3, Nat.lt_trans q4 hen2, Nat.le_of_eq hen3,
        st.bstop, en.bstart, hst2, Nat.le_of_lt (Nat.lt_trans q3 q4), Nat.le_of_lt q4, hen2, gch⟩, Nat.le_refl _⟩
  · intro lo hi hs _
    exact Nat.le_of_eq hs
  · intro p ps hp hps lo hi hs hlen
    obtain ⟨mid, hs1, hs2, hmid⟩ := BSpan_parts_cons p ps lo hi _ hs hlen
    exact RGeo_append _ _ lo mid hi (hp lo mid hs1 hmid) (hps mid hi hs2 hlen)

theorem inAny_append (a b : List Rng) (i : Nat) : inAny (a ++ b) i = (inAny a i || inAny b i) := by
  simp [inAny, List.any_append]

theorem inAny_nil (i : Nat) : inAny [] i = false := rfl

theorem selTree_cov (sel : Element → Bool) (b : Bytes) :
    (∀ p lo hi, BSpan (flattenPart p) lo hi → hi ≤ b.length → ∀ i, rcov (selTreePart sel b p) i ↔
      inAny ((elementsOfPart p).flatMap fun x => if sel x.1 then extentOf b x.1 x.2.1 x.2.2 else []) i = true) ∧
    (∀ ps lo hi, BSpan (flattenParts ps) lo hi → hi ≤ b.length → ∀ i, rcov (selTree sel b ps) i ↔
      inAny ((elementsOf ps).flatMap fun x => if sel x.1 then extentOf b x.1 x.2.1 x.2.2 else []) i = true) := by
  apply part_parts_induction
  · intro t lo hi _ _ i
    exact ⟨False.elim, fun h => by cases h⟩
  · intro el st en ch ih lo hi hs hlen i
    obtain ⟨hst, hst2, hmid, hch, hen2, hen3, hlen'⟩ := BSpan_element el st en ch lo hi _ hs hlen
    simp only [elementsOfPart, List.flatMap_cons, inAny_append, Bool.or_eq_true]
    rw [← ih st.bstop en.bstart hch hlen' i]
    rcases selTreePart_cases sel b el st en ch hst2 hlen' with
      ⟨he, hx⟩ | ⟨hs, hx, he⟩ | ⟨hs, e, s, _, _, _, _, _, hx, he⟩
    · rw [he]
      cases hs : sel el with
      | false => simp only [Bool.false_eq_true, ite_false, inAny_nil, false_or]
      | true => simp only [hx hs, ite_self, inAny_nil, Bool.false_eq_true, false_or]
    · rw [he, hs, if_pos rfl, hx]
      simp only [rcov, rtcov, inAny, List.any_cons, List.any_nil, Bool.or_false, Rng.contains_iff, or_false, false_or]
    · rw [he, hs, if_pos rfl, hx]
      simp only [rcov, rtcov, inAny, List.any_cons, List.any_nil, Bool.or_false, Bool.or_eq_true, Rng.contains_iff,
        or_false, or_assoc]
  · intro lo hi _ _ i
    exact ⟨False.elim, fun h => by cases h⟩
  · intro p ps hp hps lo hi hs hlen i
    obtain ⟨mid, hs1, hs2, hmid⟩ := BSpan_parts_cons p ps lo hi _ hs hlen
    simp only [selTree, elementsOf, List.flatMap_append]
    rw [rcov_append, inAny_append, Bool.or_eq_true, hp lo mid hs1 hmid i, hps mid hi hs2 hlen i]

mutual
def extentsOfParts (cfg : Cfg) (b : Bytes) : List Part → List Rng
  | [] => []
  | p :: ps => extentsOfPart cfg b p ++ extentsOfParts cfg b ps
def extentsOfPart (cfg : Cfg) (b : Bytes) : Part → List Rng
  | .text _ => []
  | .element el st en ch =>
    (if conditionHolds cfg el then extentOf b el st en else []) ++ extentsOfParts cfg b ch
end

theorem readyExtents_eq_aux (cfg : Cfg) (b : Bytes) :
    (∀ p, ((elementsOfPart p).flatMap fun x => if conditionHolds cfg x.1 then extentOf b x.1 x.2.1 x.2.2 else [])
      = extentsOfPart cfg b p) ∧
    (∀ ps, ((elementsOf ps).flatMap fun x => if conditionHolds cfg x.1 then extentOf b x.1 x.2.1 x.2.2 else [])
      = extentsOfParts cfg b ps) := by
  apply part_parts_induction
  · intro t; rfl
  · intro el st en ch ih
    simp only [elementsOfPart, List.flatMap_cons, extentsOfPart, ih]
  · rfl
  · intro p ps hp hps
    simp only [elementsOf, List.flatMap_append, extentsOfParts, hp, hps]

theorem readyExtents_eq : ∀ (cfg : Cfg) (b : Bytes) (parts : List Part),
    readyExtents cfg b parts = extentsOfParts cfg b parts :=
  fun cfg b parts => (readyExtents_eq_aux cfg b).2 parts

theorem readyExtentsPart_eq : ∀ (cfg : Cfg) (b : Bytes) (p : Part),
    ((elementsOfPart p).flatMap fun x => if conditionHolds cfg x.1 then extentOf b x.1 x.2.1 x.2.2 else [])
      = extentsOfPart cfg b p :=
  fun cfg b p => (readyExtents_eq_aux cfg b).1 p

theorem collect_spec (cfg : Cfg) (b : Bytes) : ∀ (parts : List Part) (lo hi : Nat),
    BSpan (flattenParts parts) lo hi → hi ≤ b.length →
    RGeo (collect cfg b false parts).1 lo hi ∧
    ∀ i, rcov (collect cfg b false parts).1 i ↔ inAny (extentsOfParts cfg b parts) i = true := by
  intro parts lo hi hs hlen
  rw [(collect_eq_selTree cfg b false).2, ← (readyExtents_eq_aux cfg b).2]
  exact ⟨(selTree_geo _ b).2 parts lo hi hs hlen, (selTree_cov _ b).2 parts lo hi hs hlen⟩

theorem collectPart_spec (cfg : Cfg) (b : Bytes) : ∀ (p : Part) (lo hi : Nat),
    BSpan (flattenPart p) lo hi → hi ≤ b.length →
    RGeo (collectPart cfg b false p).1 lo hi ∧
    ∀ i, rcov (collectPart cfg b false p).1 i ↔ inAny (extentsOfPart cfg b p) i = true := by
  intro p lo hi hs hlen
  rw [(collect_eq_selTree cfg b false).1, ← (readyExtents_eq_aux cfg b).1]
  exact ⟨(selTree_geo _ b).1 p lo hi hs hlen, (selTree_cov _ b).1 p lo hi hs hlen⟩

/-- `P` holds of every position at which a range built from the tags `st`, `en` can begin or end: the outer ends
    of the two tags and, for an unwrap-block, the inner ends of the two wrapper parts (the side conditions are those
    of `buildUnwrap_eq`) -/
def TagEnds (P : Nat → Prop) (b : Bytes) (st en : Token) : Prop :=
  0 < st.bstop ∧ en.bstart ≤ b.length ∧ P st.bstart ∧ P en.bstop ∧
    ∀ h t, unwrapParts b st en = some (h, t) → P h.2 ∧ P t.1

theorem createRange_ends (P : Nat → Prop) (b : Bytes) (el : Element) (st en : Token) (ch : List RTree)
    (h : TagEnds P b st en) (hch : RAll P ch) :
    RTreeAll P (.node (createRange b el st en).1 (createRange b el st en).2 ch) := by
  obtain ⟨h1, h2, hs, he, hu⟩ := h
  unfold createRange
  split
  · rw [buildUnwrap_eq b st en h1 h2]
    cases hp : unwrapParts b st en with
    | none => exact ⟨hs, hs, trivial, hch⟩
    | some ht =>
      obtain ⟨g1, _, _, _, g5⟩ := unwrapParts_geo b st en ht.1 ht.2 hp
      exact ⟨g1 ▸ hs, (hu _ _ hp).1, ⟨(hu _ _ hp).2, g5 ▸ he⟩, hch⟩
  · exact ⟨hs, he, trivial, hch⟩

theorem selTree_RAll (P : Nat → Prop) (sel : Element → Bool) (b : Bytes) :
    (∀ p, (∀ e ∈ elementsOfPart p, TagEnds P b e.2.1 e.2.2) → RAll P (selTreePart sel b p)) ∧
    (∀ ps, (∀ e ∈ elementsOf ps, TagEnds P b e.2.1 e.2.2) → RAll P (selTree sel b ps)) := by
  apply part_parts_induction
  · intro t _; trivial
  · intro el st en ch ih h
    have hch := ih fun e he => h e (List.mem_cons_of_mem _ he)
    simp only [selTreePart]
    split
    · exact ⟨createRange_ends P b el st en _ (h (el, st, en) List.mem_cons_self) hch, trivial⟩
    · exact hch
  · intro _; trivial
  · intro p ps hp hps h
    exact RAll_append P _ _ (hp fun e he => h e (List.mem_append_left _ he))
      (hps fun e he => h e (List.mem_append_right _ he))

theorem BSpan_elements :
    (∀ p lo hi, BSpan (flattenPart p) lo hi → ∀ e ∈ elementsOfPart p, lo ≤ e.2.1.bstart ∧
      e.2.1.bstart < e.2.1.bstop ∧ e.2.1.bstop ≤ e.2.2.bstart ∧ e.2.2.bstart < e.2.2.bstop ∧ e.2.2.bstop ≤ hi) ∧
    (∀ ps lo hi, BSpan (flattenParts ps) lo hi → ∀ e ∈ elementsOf ps, lo ≤ e.2.1.bstart ∧
      e.2.1.bstart < e.2.1.bstop ∧ e.2.1.bstop ≤ e.2.2.bstart ∧ e.2.2.bstart < e.2.2.bstop ∧ e.2.2.bstop ≤ hi) := by
  apply part_parts_induction
  · intro t lo hi _ e he; cases he
  · intro el st en ch ih lo hi hs e he
    obtain ⟨hst, hst2, hmid, hch, hen2, hen3, _⟩ := BSpan_element el st en ch lo hi hi hs (Nat.le_refl _)
    rcases List.mem_cons.mp he with rfl | he
    · exact ⟨Nat.le_of_eq hst.symm, hst2, hmid, hen2, Nat.le_of_eq hen3⟩
    · obtain ⟨i1, i2, i3, i4, i5⟩ := ih st.bstop en.bstart hch e he
      exact ⟨Nat.le_trans (hst ▸ Nat.le_of_lt hst2) i1, i2, i3, i4, Nat.le_trans i5 (hen3 ▸ Nat.le_of_lt hen2)⟩
  · intro lo hi _ e he; cases he
  · intro p ps hp hps lo hi hs e he
    obtain ⟨mid, hs1, hs2, hmid⟩ := BSpan_parts_cons p ps lo hi hi hs (Nat.le_refl _)
    rcases List.mem_append.mp he with he | he
    · obtain ⟨i1, i2, i3, i4, i5⟩ := hp lo mid hs1 e he
      exact ⟨i1, i2, i3, i4, Nat.le_trans i5 hmid⟩
    · obtain ⟨i1, i2, i3, i4, i5⟩ := hps mid hi hs2 e he
      exact ⟨Nat.le_trans (BSpan_le _ lo mid hs1) i1, i2, i3, i4, i5⟩

end Chiritori
