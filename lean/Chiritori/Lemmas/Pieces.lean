import Chiritori.Lemmas.CoresKept
/-
  C14 machinery for all sources: the pieces of the text after removal - `stretchesAux` with the line breaks inside
  unwrapped bodies kept as pieces of their own - concatenate to that text, trim to the stretches, and every place
  where something was removed, and the position behind every line break inside a body, is an end of a piece.
-/
namespace Chiritori
open Spec

def piecesAux (ext bodies : List Rng) : List (ABy × Nat) → Bytes → List Bytes
  | [], cur => [cur]
  | (x, i) :: rest, cur =>
    if inAny ext i then cur :: piecesAux ext bodies rest []
    else if inAny bodies i ∧ x == .lead '\n' then cur :: [x] :: piecesAux ext bodies rest []
    else
      match rest with
      | (_, j) :: _ =>
        if inAny bodies i != inAny bodies j ∧ !inAny ext j then (cur ++ [x]) :: piecesAux ext bodies rest []
        else piecesAux ext bodies rest (cur ++ [x])
      | [] => [cur ++ [x]]

def keptOf (ext : List Rng) (l : List (ABy × Nat)) : Bytes := (l.filter fun y => !inAny ext y.2).map (·.1)

theorem keptOf_cons_in (ext : List Rng) (x : ABy) (i : Nat) (l : List (ABy × Nat)) (h : inAny ext i = true) :
    keptOf ext ((x, i) :: l) = keptOf ext l := by simp [keptOf, h]

theorem keptOf_cons_out (ext : List Rng) (x : ABy) (i : Nat) (l : List (ABy × Nat)) (h : inAny ext i = false) :
    keptOf ext ((x, i) :: l) = x :: keptOf ext l := by simp [keptOf, h]

theorem piecesAux_flatten (ext bodies : List Rng) : ∀ (l : List (ABy × Nat)) (cur : Bytes),
    (piecesAux ext bodies l cur).flatten = cur ++ keptOf ext l := by
  intro l cur
  fun_induction piecesAux ext bodies l cur with
  | case1 cur => simp [keptOf]
  | case2 x i rest cur h ih => simp [ih, keptOf_cons_in ext x i rest h]
  | case3 x i rest cur h1 h2 ih => simp [ih, keptOf_cons_out ext x i rest (by simpa using h1)]
  | case4 x i cur h1 h2 y j tl h3 ih => simp [ih, keptOf_cons_out ext x i _ (by simpa using h1)]
  | case5 x i cur h1 h2 y j tl h3 ih => simp [ih, keptOf_cons_out ext x i _ (by simpa using h1)]
  | case6 x i cur h1 h2 => simp [keptOf, h1]

theorem trimWs_nl : trimWs [ABy.lead '\n'] = [] := by decide

theorem piecesAux_stretches (ext bodies : List Rng) : ∀ (l : List (ABy × Nat)) (cur : Bytes),
    ((piecesAux ext bodies l cur).map trimWs).filter ne = ((stretchesAux ext bodies l cur).map trimWs).filter ne := by
  intro l cur
  fun_induction piecesAux ext bodies l cur with
  | case1 cur => rfl
  | case2 x i rest cur h ih => simp only [stretchesAux, if_pos h, List.map_cons, List.filter_cons, ih]
  | case3 x i rest cur h1 h2 ih =>
    -- the piece that holds the line break alone trims to nothing
    have hx : x = .lead '\n' := by simpa using h2.2
    subst hx
    simp only [stretchesAux, if_neg h1, if_pos h2, List.map_cons, List.filter_cons, ih, trimWs_nl]
    simp [ne]
  | case4 x i cur h1 h2 y j tl h3 ih =>
    rw [stretchesAux, if_neg h1, if_neg h2]
    simp only [if_pos h3, List.map_cons, List.filter_cons, ih]
  | case5 x i cur h1 h2 y j tl h3 ih =>
    rw [stretchesAux, if_neg h1, if_neg h2]
    simp only [if_neg h3, ih]
  | case6 x i cur h1 h2 => rw [stretchesAux, if_neg h1, if_neg h2]

def koff (ext : List Rng) (l : List (ABy × Nat)) : Nat := (l.filter fun y => !inAny ext y.2).length

theorem koff_eq_length (ext : List Rng) (l : List (ABy × Nat)) : koff ext l = (keptOf ext l).length :=
  (List.length_map _).symm

/-- a boundary between pieces stays one when bytes are put in front: the group of pieces before it then holds the
    kept ones among them as well -/
theorem piecesAux_cut (ext bodies : List Rng) (t : List (ABy × Nat)) (w : Bytes) (R : List Bytes) (ht : t ≠ [])
    (h : ∀ cur, ∃ a, a ≠ [] ∧ a.flatten = cur ++ w ∧ piecesAux ext bodies t cur = a ++ R)
    (l1 : List (ABy × Nat)) (cur : Bytes) :
    ∃ a, a ≠ [] ∧ a.flatten = cur ++ (keptOf ext l1 ++ w) ∧ piecesAux ext bodies (l1 ++ t) cur = a ++ R := by
  induction l1 generalizing cur with
  | nil => exact h cur
  | cons y l1 ih =>
    obtain ⟨y, k⟩ := y
    simp only [List.cons_append, piecesAux]
    cases hk : inAny ext k with
    | true =>
      obtain ⟨a, _, a2, a3⟩ := ih []
      exact ⟨cur :: a, by simp, by simp [a2, keptOf_cons_in ext y k l1 hk], by simp [a3]⟩
    | false =>
      simp only [Bool.false_eq_true, ite_false, keptOf_cons_out ext y k l1 hk]
      split
      · obtain ⟨a, _, a2, a3⟩ := ih []
        exact ⟨cur :: [y] :: a, by simp, by simp [a2], by simp [a3]⟩
      · cases hl : l1 ++ t with
        | nil => simp [ht] at hl
        | cons z zs =>
          rw [hl] at ih
          obtain ⟨z1, j⟩ := z
          simp only
          split
          · obtain ⟨a, _, a2, a3⟩ := ih []
            exact ⟨(cur ++ [y]) :: a, by simp, by simp [a2], by simp [a3]⟩
          · obtain ⟨a, a1, a2, a3⟩ := ih (cur ++ [y])
            exact ⟨a, a1, by simp [a2], a3⟩

theorem piecesAux_ends (ext bodies : List Rng) : ∀ (l1 : List (ABy × Nat)) (x : ABy) (i : Nat) (l2 : List (ABy × Nat))
    (cur : Bytes) (off : Nat),
    (inAny ext i = true → off + cur.length + koff ext l1 ∈ segEnds (piecesAux ext bodies (l1 ++ (x, i) :: l2) cur) off) ∧
    (inAny ext i = false → inAny bodies i = true → x = .lead '\n' →
      off + cur.length + koff ext l1 + 1 ∈ segEnds (piecesAux ext bodies (l1 ++ (x, i) :: l2) cur) off) := by
  intro l1 x i l2 cur off
  -- the pieces up to the cut form a group; where it ends a piece ends, at the length of the bytes it holds
  constructor
  · intro he
    obtain ⟨a, a1, a2, a3⟩ := piecesAux_cut ext bodies ((x, i) :: l2) [] (piecesAux ext bodies l2 []) (by simp)
      (fun cur => ⟨[cur], by simp, by simp, by simp [piecesAux, he]⟩) l1 cur
    have := segEnds_prefix a (piecesAux ext bodies l2 []) off a1
    rw [← a3, a2, List.append_nil, List.length_append, ← koff_eq_length, ← Nat.add_assoc] at this
    exact this
  · intro he hb hx
    obtain ⟨a, a1, a2, a3⟩ := piecesAux_cut ext bodies ((x, i) :: l2) [x] (piecesAux ext bodies l2 []) (by simp)
      (fun cur => ⟨[cur, [x]], by simp, by simp, by simp [piecesAux, he, hb, hx]⟩) l1 cur
    have := segEnds_prefix a (piecesAux ext bodies l2 []) off a1
    rw [← a3, a2, List.length_append, List.length_append, ← koff_eq_length, ← Nat.add_assoc, ← Nat.add_assoc] at this
    exact this

end Chiritori
