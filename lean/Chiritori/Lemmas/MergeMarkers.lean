import Chiritori.Lemmas.Markers
import Chiritori.Lemmas.Induction
/-
  `merge_markers` on a geometrically well-formed range tree: the output is sorted, disjoint and covers exactly the
  ranges of the tree.  The list `merge_markers` appends to only sits in front of what is added and moves the pair
  indices of the new markers along (`mergeMarkers_acc`), so the facts are proved for the empty list.
-/
namespace Chiritori

mutual
/-- sibling range trees lie side by side within `[lo, hi]` -/
def RGeo : List RTree → Nat → Nat → Prop
  | [], lo, hi => lo ≤ hi
  | t :: ts, lo, hi => ∃ mid, RTreeGeo t lo mid ∧ RGeo ts mid hi
/-- a Range node `[s,e)` holds its children; an Unwrap node has parts `[s,e)`, `[s2,e2)` with `e < s2` and its
    children somewhere in `[a,b]`, `s < a`, `e ≤ b`, `s2 ≤ b < e2` -/
def RTreeGeo : RTree → Nat → Nat → Prop
  | .node r pair ch, lo, hi =>
    match pair with
    | none => lo ≤ r.1 ∧ r.1 < r.2 ∧ r.2 ≤ hi ∧ RGeo ch r.1 r.2
    | some t => lo ≤ r.1 ∧ r.1 < r.2 ∧ r.2 < t.1 ∧ t.1 < t.2 ∧ t.2 ≤ hi ∧
        ∃ a b, r.1 < a ∧ r.2 ≤ b ∧ t.1 ≤ b ∧ b < t.2 ∧ RGeo ch a b
end

mutual
def rcov : List RTree → Nat → Prop
  | [], _ => False
  | t :: ts, i => rtcov t i ∨ rcov ts i
def rtcov : RTree → Nat → Prop
  | .node r pair ch, i =>
    (r.1 ≤ i ∧ i < r.2) ∨ (match pair with | some t => t.1 ≤ i ∧ i < t.2 | none => False) ∨ rcov ch i
end

theorem RTreeGeo_widenL (t : RTree) (lo hi lo' : Nat) (h : RTreeGeo t lo hi) (h1 : lo' ≤ lo) : RTreeGeo t lo' hi := by
  cases t with
  | node r pair ch =>
    cases pair with
    | none => exact ⟨Nat.le_trans h1 h.1, h.2⟩
    | some t => exact ⟨Nat.le_trans h1 h.1, h.2⟩

theorem RGeo_widen (ts : List RTree) (lo hi lo' hi' : Nat) (h : RGeo ts lo hi) (h1 : lo' ≤ lo) (h2 : hi ≤ hi') :
    RGeo ts lo' hi' := by
  induction ts generalizing lo lo' with
  | nil => exact Nat.le_trans h1 (Nat.le_trans h h2)
  | cons t ts ih =>
    obtain ⟨mid, ht, hts⟩ := h
    exact ⟨mid, RTreeGeo_widenL t lo mid lo' ht h1, ih mid mid hts (Nat.le_refl _)⟩

theorem RGeo_le : ∀ (ts : List RTree) (lo hi : Nat), RGeo ts lo hi → lo ≤ hi := by
  intro ts
  induction ts with
  | nil => exact fun _ _ h => h
  | cons t ts ih =>
    intro lo hi h
    obtain ⟨mid, ht, hts⟩ := h
    have := ih mid hi hts
    cases t with
    | node r pair ch =>
      cases pair with
      | none =>
        obtain ⟨g1, g2, g3, _⟩ := ht
        exact Nat.le_trans g1 (Nat.le_trans (Nat.le_of_lt g2) (Nat.le_trans g3 this))
      | some t =>
        obtain ⟨g1, g2, g3, g4, g5, _⟩ := ht
        exact Nat.le_trans g1 (Nat.le_of_lt (Nat.lt_trans g2 (Nat.lt_trans g3
          (Nat.lt_of_lt_of_le g4 (Nat.le_trans g5 this)))))

theorem RGeo_append (a b : List RTree) (lo mid hi : Nat) (ha : RGeo a lo mid) (hb : RGeo b mid hi) :
    RGeo (a ++ b) lo hi := by
  induction a generalizing lo with
  | nil => exact RGeo_widen b mid hi lo hi hb ha (Nat.le_refl _)
  | cons t ts ih =>
    obtain ⟨m, ht, hts⟩ := ha
    exact ⟨m, ht, ih m hts⟩

theorem rcov_append (a b : List RTree) (i : Nat) : rcov (a ++ b) i ↔ rcov a i ∨ rcov b i := by
  induction a with
  | nil => simp only [List.nil_append, rcov, false_or]
  | cons t ts ih => simp only [List.cons_append, rcov, ih, or_assoc]

theorem rebase_start (a b c : Nat) (m : Marker) : (rebase a b c m).start = m.start := rfl
theorem rebase_stop (a b c : Nat) (m : Marker) : (rebase a b c m).stop = m.stop := rfl

theorem rebase_ends (a b c : Nat) (m : Marker) : (rebase a b c m).start = m.start ∧ (rebase a b c m).stop = m.stop :=
  ⟨rfl, rfl⟩

/-- a marker whose list has got `n` more markers in front -/
def shift (n : Nat) (m : Marker) : Marker := ⟨m.start, m.stop, m.pair.map (· + n)⟩

theorem shift_shift (a b : Nat) (m : Marker) : shift a (shift b m) = shift (b + a) m := by
  simp only [shift, Option.map_map, Marker.mk.injEq, true_and]
  congr 1; funext p; exact Nat.add_assoc p b a

theorem shift_ends (n : Nat) (m : Marker) : (shift n m).start = m.start ∧ (shift n m).stop = m.stop := ⟨rfl, rfl⟩

theorem MSorted_append_shift (acc ms : List Marker) (lo0 lo hi : Nat) (ha : MSorted acc lo0 lo) (h : MSorted ms lo hi) :
    MSorted (acc ++ ms.map (shift acc.length)) lo0 hi :=
  (MSorted_append _ _ _ _).mpr ⟨lo, ha, (MSorted_map _ (shift_ends _) _ _ _).mpr h⟩

theorem mcov_append_shift (acc ms : List Marker) (n i : Nat) :
    mcov (acc ++ ms.map (shift n)) i ↔ mcov acc i ∨ mcov ms i := by
  rw [mcov_append, mcov_map _ (shift_ends n)]

theorem rebase_eq_shift (k ec n : Nat) (m : Marker) : rebase k ec n m = shift n (rebase k ec 0 m) := by
  simp only [rebase, shift, Option.map_map, Marker.mk.injEq, true_and]
  congr 1; funext p; exact Nat.add_right_comm (p - k) n 1

/-- what the fold step of `merge_markers` (`mergeTree`) emits for an unwrap node: `cm` are the merged markers of the
    children, `(k, hd)` and `(n, tl)` what `merge_child_markers` returned for the opening and the closing part, `cur`
    the length of the list so far -/
def unwrapMarkers (cur : Nat) (cm : List Marker) (k : Nat) (hd : Rng) (n : Nat) (tl : Rng) : List Marker :=
  if hd.2 ≥ tl.1 then [⟨hd.1, tl.2, none⟩]
  else [⟨hd.1, hd.2, some (cur + (cm.length - n - k) + 1)⟩]
    ++ ((cm.drop k).take (cm.length - n - k)).map (rebase k (cm.length - n) cur)
    ++ [⟨tl.1, tl.2, some cur⟩]

theorem mergeTree_default_eq (r : Rng) (ch : List RTree) (acc : List Marker) :
    mergeTree (.node r none ch) acc = acc ++
      [⟨(mergeChildMarkers (mergeMarkers ch []) r).2.1, (mergeChildMarkers (mergeMarkers ch []) r).2.2, none⟩] := by
  simp only [mergeTree]

theorem mergeTree_unwrap_eq (r t : Rng) (ch : List RTree) (acc : List Marker) :
    mergeTree (.node r (some t) ch) acc = acc ++ unwrapMarkers acc.length (mergeMarkers ch [])
      (mergeChildMarkers (mergeMarkers ch []) r).1 (mergeChildMarkers (mergeMarkers ch []) r).2
      (mergeChildMarkers ((mergeMarkers ch []).drop (mergeChildMarkers (mergeMarkers ch []) r).1).reverse t).1
      (mergeChildMarkers ((mergeMarkers ch []).drop (mergeChildMarkers (mergeMarkers ch []) r).1).reverse t).2 := by
  simp only [mergeTree, unwrapMarkers]
  split <;> simp only [List.append_assoc]

theorem unwrapMarkers_shift (cur : Nat) (cm : List Marker) (k : Nat) (hd : Rng) (n : Nat) (tl : Rng) :
    unwrapMarkers cur cm k hd n tl = (unwrapMarkers 0 cm k hd n tl).map (shift cur) := by
  unfold unwrapMarkers
  split
  · rfl
  · simp only [List.map_append, List.map_map, List.map_cons, List.map_nil, shift, Option.map_some]
    congr 3
    · rw [Nat.zero_add, Nat.add_comm cur, Nat.add_right_comm]
    · funext m; exact rebase_eq_shift k _ cur m
    · rw [Nat.zero_add]

theorem mergeTree_acc (t : RTree) (acc : List Marker) :
    mergeTree t acc = acc ++ (mergeTree t []).map (shift acc.length) := by
  cases t with
  | node r pair ch =>
    cases pair with
    | none => rw [mergeTree_default_eq r ch acc, mergeTree_default_eq r ch []]; rfl
    | some t =>
      rw [mergeTree_unwrap_eq r t ch acc, mergeTree_unwrap_eq r t ch [], unwrapMarkers_shift, List.nil_append,
        List.length_nil]

theorem mergeMarkers_acc (ts : List RTree) (acc : List Marker) :
    mergeMarkers ts acc = acc ++ (mergeMarkers ts []).map (shift acc.length) := by
  induction ts generalizing acc with
  | nil => simp only [mergeMarkers, List.map_nil, List.append_nil]
  | cons t ts ih =>
    simp only [mergeMarkers]
    rw [ih (mergeTree t acc), ih (mergeTree t []), mergeTree_acc t acc]
    simp only [List.length_append, List.length_map, List.map_append, List.map_map, List.append_assoc]
    congr 3
    funext m
    simp only [Function.comp, shift_shift, Nat.add_comm]

theorem unwrapMarkers_decomp (cur : Nat) (A M B : List Marker) (hd tl : Rng) :
    unwrapMarkers cur (A ++ (M ++ B)) A.length hd B.length tl =
      if hd.2 ≥ tl.1 then [⟨hd.1, tl.2, none⟩]
      else [⟨hd.1, hd.2, some (cur + M.length + 1)⟩] ++ M.map (rebase A.length (A.length + M.length) cur)
        ++ [⟨tl.1, tl.2, some cur⟩] := by
  have h1 : (A ++ (M ++ B)).length - B.length = A.length + M.length := by
    rw [List.length_append, List.length_append, ← Nat.add_assoc, Nat.add_sub_cancel]
  unfold unwrapMarkers
  rw [h1, Nat.add_sub_cancel_left, List.drop_left, List.take_left]

theorem mergeTree_default (r : Rng) (ch : List RTree) (acc : List Marker)
    (hcm : MSorted (mergeMarkers ch []) r.1 r.2) :
    mergeTree (.node r none ch) acc = acc ++ [⟨r.1, r.2, none⟩] := by
  obtain ⟨A, R, E, _, hk, e1, e2, _⟩ := mergeChild_head _ r r.1 r.2 hcm (Nat.le_refl _) (Nat.le_refl _)
  rw [mergeTree_default_eq, hk, Nat.le_antisymm (MSorted_le R E r.2 e2) e1]

/-- An unwrap node over sorted children: the opening part swallows a prefix `A` of the children's markers and grows
    to `[r.1, E)`, the closing part a suffix `B` and grows to `[T, t.2)`; if the two now meet they become one marker,
    otherwise they are paired, with the markers `M` between them (pair indices re-based) in between. -/
theorem mergeTree_unwrap (r t : Rng) (ch : List RTree) (a b : Nat) (hcm : MSorted (mergeMarkers ch []) a b)
    (ha : r.1 ≤ a) (hrb : r.2 ≤ b) (htb : b < t.2) (ht : t.1 < t.2) :
    ∃ A M B E T, mergeMarkers ch [] = A ++ (M ++ B) ∧ r.2 ≤ E ∧ E ≤ b ∧ T ≤ t.1 ∧ (E ≤ T → MSorted M E T) ∧
      (∀ i, (r.1 ≤ i ∧ i < E) ↔ ((r.1 ≤ i ∧ i < r.2) ∨ mcov A i)) ∧
      (∀ i, (T ≤ i ∧ i < t.2) ↔ ((t.1 ≤ i ∧ i < t.2) ∨ mcov B i)) ∧
      ∀ acc, mergeTree (.node r (some t) ch) acc = acc ++
        if E ≥ T then [⟨r.1, t.2, none⟩]
        else [⟨r.1, E, some (acc.length + M.length + 1)⟩]
          ++ M.map (rebase A.length (A.length + M.length) acc.length) ++ [⟨T, t.2, some acc.length⟩] := by
  obtain ⟨A, R, E, hA, hk, e1, e2, e3⟩ := mergeChild_head _ r a b hcm ha hrb
  obtain ⟨M, B, T, hR, hn, t1, t2, t3⟩ := mergeChild_tail R t E b e2 htb ht
  refine ⟨A, M, B, E, T, by rw [hA, hR], e1, MSorted_le R E b e2, t1, t2, e3, t3, fun acc => ?_⟩
  rw [mergeTree_unwrap_eq, hk, hA]
  simp only [List.drop_left]
  rw [hn, hR, unwrapMarkers_decomp]

theorem merge_spec :
    (∀ t lo hi, RTreeGeo t lo hi → MSorted (mergeTree t []) lo hi ∧ ∀ i, mcov (mergeTree t []) i ↔ rtcov t i) ∧
    (∀ ts lo hi, RGeo ts lo hi → MSorted (mergeMarkers ts []) lo hi ∧ ∀ i, mcov (mergeMarkers ts []) i ↔ rcov ts i) := by
  apply rtree_rtrees_induction
  · intro r pair ch ih lo hi hg
    cases pair with
    | none =>
      obtain ⟨g1, g2, g3, gch⟩ := hg
      obtain ⟨hcm, ccm⟩ := ih r.1 r.2 gch
      rw [mergeTree_default r ch [] hcm]
      refine ⟨⟨g1, g2, g3⟩, fun i => ?_⟩
      simp only [List.nil_append, mcov_single, rtcov, false_or]
      exact ⟨Or.inl, fun h => h.elim id fun h => mcov_bounds _ r.1 r.2 i hcm ((ccm i).mpr h)⟩
    | some t =>
      obtain ⟨g1, g2, g3, g4, g5, a, b, ga, gb1, gb2, gb3, gch⟩ := hg
      obtain ⟨hcm, ccm⟩ := ih a b gch
      obtain ⟨A, M, B, E, T, hA, e1, e2, t1, hM, cA, cB, hT⟩ :=
        mergeTree_unwrap r t ch a b hcm (Nat.le_of_lt ga) gb1 gb3 g4
      have hch : ∀ i, rcov ch i ↔ mcov A i ∨ mcov M i ∨ mcov B i := fun i => by
        rw [← ccm i, hA, mcov_append, mcov_append]
      have hin : ∀ i, rcov ch i → r.1 ≤ i ∧ i < t.2 := fun i h =>
        have hb := mcov_bounds _ a b i hcm ((ccm i).mpr h)
        ⟨Nat.le_trans (Nat.le_of_lt ga) hb.1, Nat.lt_trans hb.2 gb3⟩
      have hrt : r.2 < t.2 := Nat.lt_trans g3 g4
      rw [hT []]
      simp only [List.nil_append, rtcov]
      split
      · rename_i hET
        refine ⟨(MSorted_single _ _ _ _ _).mpr ⟨g1, Nat.lt_trans g2 hrt, g5⟩, fun i => ?_⟩
        rw [mcov_single]
        constructor
        · intro h
          by_cases hi : i < E
          · rcases (cA i).mp ⟨h.1, hi⟩ with h | h
            · exact Or.inl h
            · exact Or.inr (Or.inr ((hch i).mpr (Or.inl h)))
          · rcases (cB i).mp ⟨Nat.le_trans hET (Nat.le_of_not_lt hi), h.2⟩ with h | h
            · exact Or.inr (Or.inl h)
            · exact Or.inr (Or.inr ((hch i).mpr (Or.inr (Or.inr h))))
        · rintro (h | h | h)
          · exact ⟨h.1, Nat.lt_trans h.2 hrt⟩
          · exact ⟨Nat.le_trans (Nat.le_of_lt (Nat.lt_trans g2 g3)) h.1, h.2⟩
          · exact hin i h
      · rename_i hET
        refine ⟨(MSorted_append _ _ _ _).mpr ⟨T, (MSorted_append _ _ _ _).mpr ⟨E, ?_, ?_⟩, ?_⟩, fun i => ?_⟩
        · exact (MSorted_single _ _ _ _ _).mpr ⟨g1, Nat.lt_of_lt_of_le g2 e1, Nat.le_refl _⟩
        · exact (MSorted_map _ (rebase_ends _ _ _) _ _ _).mpr (hM (Nat.le_of_lt (Nat.not_le.mp hET)))
        · exact (MSorted_single _ _ _ _ _).mpr ⟨Nat.le_refl _, Nat.lt_of_le_of_lt t1 g4, g5⟩
        · rw [mcov_append, mcov_append, mcov_single, mcov_single, mcov_map _ (rebase_ends _ _ _), cA, cB, hch]
          simp only [or_assoc]
          rw [@or_left_comm (t.1 ≤ i ∧ i < t.2) (mcov A i), @or_left_comm (t.1 ≤ i ∧ i < t.2) (mcov M i)]
  · intro lo hi hg
    exact ⟨hg, fun i => ⟨fun h => mcov_nil i h, False.elim⟩⟩
  · intro t ts iht ihts lo hi hg
    obtain ⟨mid, ht, hts⟩ := hg
    simp only [mergeMarkers, rcov]
    rw [mergeMarkers_acc]
    refine ⟨MSorted_append_shift _ _ lo mid hi (iht lo mid ht).1 (ihts mid hi hts).1, fun i => ?_⟩
    rw [mcov_append_shift, (iht lo mid ht).2, (ihts mid hi hts).2]

theorem mergeMarkers_spec : ∀ (ts : List RTree) (lo hi : Nat) (acc : List Marker) (lo0 : Nat),
    RGeo ts lo hi → MSorted acc lo0 lo →
    MSorted (mergeMarkers ts acc) lo0 hi ∧ ∀ i, mcov (mergeMarkers ts acc) i ↔ (mcov acc i ∨ rcov ts i) := by
  intro ts lo hi acc lo0 hg ha
  obtain ⟨h1, h2⟩ := merge_spec.2 ts lo hi hg
  rw [mergeMarkers_acc]
  exact ⟨MSorted_append_shift acc _ lo0 lo hi ha h1, fun i => by rw [mcov_append_shift, h2]⟩

theorem mergeTree_spec : ∀ (t : RTree) (lo hi : Nat) (acc : List Marker) (lo0 : Nat),
    RTreeGeo t lo hi → MSorted acc lo0 lo →
    MSorted (mergeTree t acc) lo0 hi ∧ ∀ i, mcov (mergeTree t acc) i ↔ (mcov acc i ∨ rtcov t i) := by
  intro t lo hi acc lo0 hg ha
  obtain ⟨h1, h2⟩ := merge_spec.1 t lo hi hg
  rw [mergeTree_acc]
  exact ⟨MSorted_append_shift acc _ lo0 lo hi ha h1, fun i => by rw [mcov_append_shift, h2]⟩
end Chiritori
