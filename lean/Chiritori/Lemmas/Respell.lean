import Chiritori.Lemmas.RelParse
import Chiritori.Props.C09
/-
  The same document under two delimiter pairs: its tokens correspond one to one (texts equal, tags with the same
  body), they parse to forests of the same shape with the same elements, and pruning / flattening keeps the
  correspondence.  The documents are sequences of pieces that fit both delimiter pairs (`Piece.fits`) - the
  domain of C18.  The correspondence is an instance of the one in Lemmas/Simulate.lean.
-/
namespace Chiritori
open Spec

def FreeOf (cs body : List Char) : Prop := ∀ c ∈ body, c ∉ cs

/-- stripping the delimiters from `ds ++ body ++ de` gives `body` back: the body does not begin with the start
    delimiter (nor does a start delimiter begin in the body and run into the end delimiter), and it does not end with
    the end delimiter -/
def StripOK (ds de body : List Char) : Prop :=
  ds.isPrefixOf (body ++ de) = false ∧ de.reverse.isPrefixOf body.reverse = false

/-- the same text, or the same tag body under the two delimiter pairs -/
def TokX0 (ds de ds' de' : List Char) (t u : Token) : Prop :=
  t.kind = u.kind ∧
    ((t.kind = .text ∧ t.value = u.value) ∨
     (t.kind = .element ∧ ∃ body, body ≠ [] ∧ t.value = ds ++ body ++ de ∧ u.value = ds' ++ body ++ de' ∧
        StripOK ds de body ∧ StripOK ds' de' body))

theorem tokX0_texts {ds de ds' de' : List Char} {t u : Token} (h : TokX0 ds de ds' de' t u) :
    t.kind = u.kind ∧ (t.kind = .text → t.value = u.value) :=
  ⟨h.1, fun hkt => h.2.elim (·.2) fun hke => nomatch hkt.symm.trans hke.1⟩

theorem isPrefixOf_false_of_head (ds body rest : List Char) (hds : ds ≠ []) (hb : body ≠ [])
    (hf : ∀ c ∈ body, c ∉ ds) : ds.isPrefixOf (body ++ rest) = false := by
  cases ds with
  | nil => exact absurd rfl hds
  | cons d dr =>
    cases body with
    | nil => exact absurd rfl hb
    | cons b bs =>
      have : d ≠ b := by
        intro h; subst h
        exact hf d (by simp) (by simp)
      simp [List.isPrefixOf, this]

theorem stripOK_of_free (ds de body : List Char) (hds : ds ≠ []) (hde : de ≠ []) (hb : body ≠ [])
    (hf : FreeOf (ds ++ de) body) : StripOK ds de body := by
  refine ⟨isPrefixOf_false_of_head ds body de hds hb (fun c hc hm => hf c hc (by simp [hm])), ?_⟩
  have := isPrefixOf_false_of_head de.reverse body.reverse [] (by simpa using hde) (by simpa using hb)
    (fun c hc hm => hf c (by simpa using hc) (by simp at hm; simp [hm]))
  simpa using this

theorem elparse_strip (ds de body : List Char) (t : Token) (hds : ds ≠ []) (hde : de ≠ []) (hb : body ≠ [])
    (hk : t.kind = .element) (hv : t.value = ds ++ body ++ de) (hs : StripOK ds de body) :
    elparse ds de t = parseBody body :=
  Props.C09.elparse_of_body ds de body t hds hde hb hk hv hs.1 hs.2

theorem elparse_free (ds de body : List Char) (t : Token) (hds : ds ≠ []) (hde : de ≠ []) (hb : body ≠ [])
    (hk : t.kind = .element) (hv : t.value = ds ++ body ++ de) (hf : FreeOf (ds ++ de) body) :
    elparse ds de t = parseBody body :=
  elparse_strip ds de body t hds hde hb hk hv (stripOK_of_free ds de body hds hde hb hf)

theorem wrap_inj (ds de : List Char) {a b : List Char} (h : ds ++ a ++ de = ds ++ b ++ de) : a = b := by
  rw [List.append_assoc, List.append_assoc] at h
  exact List.append_cancel_right (List.append_cancel_left h)

theorem body_cancel {ds de body : List Char} {b0 : Char} {rest : List Char}
    (h : ds ++ (b0 :: (rest ++ de)) = ds ++ body ++ de) : b0 :: rest = body :=
  wrap_inj ds de (h ▸ List.append_assoc ds (b0 :: rest) de)

theorem elparse_x (ds de ds' de' : List Char) (hds : ds ≠ []) (hde : de ≠ []) (hds' : ds' ≠ []) (hde' : de' ≠ [])
    (t u : Token) (h : TokX0 ds de ds' de' t u) : elparse ds de t = elparse ds' de' u := by
  obtain ⟨hk, h | h⟩ := h
  · obtain ⟨hkt, _⟩ := h
    have hku : u.kind = .text := by rw [← hk]; exact hkt
    simp [elparse, hkt, hku]
  · obtain ⟨hkt, body, hb, hv, hv', hf, hf'⟩ := h
    have hku : u.kind = .element := by rw [← hk]; exact hkt
    rw [elparse_strip ds de body t hds hde hb hkt hv hf, elparse_strip ds' de' body u hds' hde' hb hku hv' hf']

section
variable (ds de ds' de' : List Char) (R : Token → Token → Prop)

/-- corresponding tokens, with any further relation `R` carried along (e.g. equal line numbers) -/
def TokX (t u : Token) : Prop := TokX0 ds de ds' de' t u ∧ R t u

mutual
def partsX : List Part → List Part → Prop
  | [], [] => True
  | p :: ps, q :: qs => partX p q ∧ partsX ps qs
  | [], _ :: _ => False
  | _ :: _, [] => False
def partX : Part → Part → Prop
  | .text t, .text u => TokX ds de ds' de' R t u
  | .element el st en ch, .element el' st' en' ch' =>
    el = el' ∧ TokX ds de ds' de' R st st' ∧ TokX ds de ds' de' R en en' ∧ partsX ch ch'
  | .text _, .element _ _ _ _ => False
  | .element _ _ _ _, .text _ => False
end

def TokXs : List Token → List Token → Prop
  | [], [] => True
  | t :: ts, u :: us => TokX ds de ds' de' R t u ∧ TokXs ts us
  | [], _ :: _ => False
  | _ :: _, [] => False

theorem tokXs_iff (T T' : List Token) : TokXs ds de ds' de' R T T' ↔ PW (TokX ds de ds' de' R) T T' :=
  PW.of_unfold trivial (fun _ _ _ _ => Iff.rfl) (fun _ _ h => h) (fun _ _ h => h) T T'

theorem partsX_iff (a b : List Part) : partsX ds de ds' de' R a b ↔ Alike (TokX ds de ds' de' R) Eq a b := by
  constructor
  · intro h
    induction a using parts_induction generalizing b with
    | nil =>
      cases b with
      | nil => exact .nil
      | cons _ _ => exact h.elim
    | text t rest ih =>
      cases b with
      | nil => exact h.elim
      | cons q qs =>
        cases q with
        | text u => exact .text h.1 (ih qs h.2)
        | element _ _ _ _ => exact h.1.elim
    | element el st en ch rest ihc ih =>
      cases b with
      | nil => exact h.elim
      | cons q qs =>
        cases q with
        | text u => exact h.1.elim
        | element el' st' en' ch' =>
          obtain ⟨⟨h1, h2, h3, h4⟩, h5⟩ := h
          exact .element h1 h2 h3 (ihc ch' h4) (ih qs h5)
  · intro h
    induction h with
    | nil => trivial
    | text h _ ih => exact ⟨h, ih⟩
    | element he h1 h2 _ _ ihc ih => exact ⟨⟨he, h1, h2, ihc⟩, ih⟩

theorem partX_iff (p q : Part) : partX ds de ds' de' R p q ↔ Alike (TokX ds de ds' de' R) Eq [p] [q] := by
  rw [← partsX_iff]
  simp only [partsX, and_true]

theorem flatten_x (a b : List Part) (h : partsX ds de ds' de' R a b) :
    TokXs ds de ds' de' R (flattenParts a) (flattenParts b) :=
  (tokXs_iff ds de ds' de' R _ _).mpr ((partsX_iff ds de ds' de' R a b).mp h).flatten

theorem flattenPart_x : ∀ (p q : Part), partX ds de ds' de' R p q → TokXs ds de ds' de' R (flattenPart p) (flattenPart q) := by
  intro p q h
  have := flatten_x ds de ds' de' R [p] [q] ⟨h, trivial⟩
  simpa only [flattenParts, List.append_nil] using this

theorem prune_x (P : Element → Bool) (a b : List Part) (h : partsX ds de ds' de' R a b) :
    partsX ds de ds' de' R (pruneParts P a) (pruneParts P b) :=
  (partsX_iff ds de ds' de' R _ _).mpr
    (((partsX_iff ds de ds' de' R a b).mp h).prune (fun _ _ he => by rw [he]))

theorem prunePart_x (P : Element → Bool) : ∀ (p q : Part), partX ds de ds' de' R p q →
    partsX ds de ds' de' R (prunePart P p) (prunePart P q) := by
  intro p q h
  have := prune_x ds de ds' de' R P [p] [q] ⟨h, trivial⟩
  simpa only [pruneParts, List.append_nil] using this

theorem elements_x (a b : List Part) (h : partsX ds de ds' de' R a b) :
    (elementsOf a).map (·.1) = (elementsOf b).map (·.1) :=
  ((partsX_iff ds de ds' de' R a b).mp h).elements.map_eq (fun _ _ he => he)

theorem elementsPart_x : ∀ (p q : Part), partX ds de ds' de' R p q →
    (elementsOfPart p).map (·.1) = (elementsOfPart q).map (·.1) := by
  intro p q h
  have := elements_x ds de ds' de' R [p] [q] ⟨h, trivial⟩
  simpa only [elementsOf, List.append_nil] using this

theorem spelling_x (hds : ds ≠ []) (hde : de ≠ []) (hds' : ds' ≠ []) (hde' : de' ≠ []) :
    Spelling ds de ds' de' (TokX ds de ds' de' R) Eq :=
  ⟨fun t u h => Both.of_eq (elparse_x ds de ds' de' hds hde hds' hde' t u h.1), fun _ _ h => by rw [h],
    fun _ _ _ _ hf he => by rw [hf, he]⟩

theorem parse_x (hds : ds ≠ []) (hde : de ≠ []) (hds' : ds' ≠ []) (hde' : de' ≠ []) (T T' : List Token)
    (h : TokXs ds de ds' de' R T T') : partsX ds de ds' de' R (parse ds de T) (parse ds' de' T') :=
  (partsX_iff ds de ds' de' R _ _).mpr
    (parse_sim (spelling_x ds de ds' de' R hds hde hds' hde') Alike.congr ((tokXs_iff ds de ds' de' R T T').mp h))

end

def Piece.free (cs : List Char) : Piece → Prop
  | .text s => FreeOf cs s
  | .tag b0 rest => FreeOf cs (b0 :: rest)

def Piece.strip (ds de : List Char) : Piece → Prop
  | .text _ => True
  | .tag b0 rest => StripOK ds de (b0 :: rest)

/-- a piece that fits the delimiters `ds = d0 :: _`, `de = e0 :: _`: a text without `d0`; a tag whose body has no `e0`
    behind its first character and can be stripped -/
def Piece.fits (d0 e0 : Char) (ds de : List Char) : Piece → Prop
  | .text s => ∀ c ∈ s, c ≠ d0
  | .tag b0 rest => (∀ c ∈ rest, c ≠ e0) ∧ StripOK ds de (b0 :: rest)

theorem Piece.strip_of_fits (d0 e0 : Char) (ds de : List Char) (p : Piece) (h : p.fits d0 e0 ds de) : p.strip ds de := by
  cases p with
  | text s => trivial
  | tag b0 rest => exact h.2

theorem Piece.ok_of_fits (d0 e0 : Char) (ds de : List Char) (p : Piece) (h : p.fits d0 e0 ds de) : p.ok d0 e0 := by
  cases p with
  | text s => exact h
  | tag b0 rest => exact h.1

theorem Piece.fits_of_free (d0 : Char) (dr : List Char) (e0 : Char) (er : List Char) (p : Piece)
    (h : p.free ((d0 :: dr) ++ (e0 :: er))) : p.fits d0 e0 (d0 :: dr) (e0 :: er) := by
  cases p with
  | text s =>
    intro c hc hcd
    exact h c hc (by simp [hcd])
  | tag b0 rest =>
    refine ⟨?_, stripOK_of_free (d0 :: dr) (e0 :: er) (b0 :: rest) (by simp) (by simp) (by simp) h⟩
    intro c hc hce
    exact h c (by simp [hc]) (by simp [hce])

/-- all tokens of kind and value `a` are related to all tokens of kind and value `b` -/
def Kv (Q : Token → Token → Prop) (a b : TKind × List Char) : Prop :=
  ∀ t u : Token, (t.kind, t.value) = a → (u.kind, u.value) = b → Q t u

theorem kv_of {Q : Token → Token → Prop} {k k' : TKind} {v v' : List Char}
    (h : ∀ t u : Token, t.kind = k → t.value = v → u.kind = k' → u.value = v' → Q t u) : Kv Q (k, v) (k', v') := by
  intro t u ht hu
  injection ht with tk tv
  injection hu with uk uv
  exact h t u tk tv uk uv

/-- the text token that `tnorm` emits for the characters gathered so far, when the relation holds of equal texts -/
theorem kv_optText {Q : Token → Token → Prop}
    (hQ : ∀ t u : Token, t.kind = .text → u.kind = .text → t.value = u.value → Q t u) (acc : List Char) :
    PW (Kv Q) (if acc ≠ [] then [(TKind.text, acc)] else []) (if acc ≠ [] then [(TKind.text, acc)] else []) := by
  split
  · exact .cons (kv_of fun t u tk tv uk uv => hQ t u tk uk (tv.trans uv.symm)) .nil
  · exact .nil

theorem PW.tokens_of_kv {Q : Token → Token → Prop} {T T' : List Token} {l l' : List (TKind × List Char)} (h : PW (Kv Q) l l')
    (hT : T.map (fun t => (t.kind, t.value)) = l) (hT' : T'.map (fun t => (t.kind, t.value)) = l') : PW Q T T' := by
  subst hT hT'
  exact h.map.mono fun t u htu => htu t u rfl rfl

theorem tnorm_x (ds de ds' de' : List Char) : ∀ (ps : List Piece) (acc : List Char),
    (∀ p ∈ ps, p.strip ds de ∧ p.strip ds' de') →
    PW (Kv (TokX0 ds de ds' de')) (tnorm ds de [] ps acc) (tnorm ds' de' [] ps acc) := by
  have hopt := kv_optText (Q := TokX0 ds de ds' de') fun t u tk uk tv => ⟨tk.trans uk.symm, .inl ⟨tk, tv⟩⟩
  intro ps
  induction ps with
  | nil =>
    intro acc _
    simp only [tnorm, List.append_nil]
    exact hopt acc
  | cons p ps ih =>
    intro acc hf
    have hf' : ∀ p ∈ ps, p.strip ds de ∧ p.strip ds' de' := fun p hp => hf p (List.mem_cons_of_mem _ hp)
    cases p with
    | text s => exact ih (acc ++ s) hf'
    | tag b0 rest =>
      obtain ⟨hs, hs'⟩ := hf (.tag b0 rest) List.mem_cons_self
      have htag : Kv (TokX0 ds de ds' de') (.element, ds ++ (b0 :: (rest ++ de))) (.element, ds' ++ (b0 :: (rest ++ de'))) :=
        kv_of fun t u tk tv uk uv =>
          ⟨tk.trans uk.symm, .inr ⟨tk, b0 :: rest, List.cons_ne_nil _ _, by rw [tv]; simp, by rw [uv]; simp, hs, hs'⟩⟩
      simp only [tnorm]
      exact ((hopt acc).append (.cons htag .nil)).append (ih [] hf')

theorem tokX_of_tnorm (ds de ds' de' : List Char) (ps : List Piece) (acc : List Char) (T T' : List Token)
    (hf : ∀ p ∈ ps, p.strip ds de ∧ p.strip ds' de')
    (hT : T.map (fun t => (t.kind, t.value)) = tnorm ds de [] ps acc)
    (hT' : T'.map (fun t => (t.kind, t.value)) = tnorm ds' de' [] ps acc) :
    PW (TokX ds de ds' de' (fun _ _ => True)) T T' :=
  ((tnorm_x ds de ds' de' ps acc hf).tokens_of_kv hT hT').mono fun _ _ h => ⟨h, trivial⟩

end Chiritori
