import Chiritori.Lemmas.Finders
/-
  Consequences of well-formedness (`b = bytesOf s`) for runs of bytes the finders step over: a continuation byte
  follows a lead byte of the same character only, so a run that starts at a character boundary holds blanks alone.
-/
namespace Chiritori

def isBlankByte (x : ABy) : Prop := x = .lead ' ' ∨ x = .lead '\t'
def isWsByte (x : ABy) : Prop := x = .lead ' ' ∨ x = .lead '\t' ∨ x = .lead '\n'

theorem utf8Size_space : (' ' : Char).utf8Size = 1 := by decide
theorem utf8Size_tab : ('\t' : Char).utf8Size = 1 := by decide
theorem utf8Size_nl : ('\n' : Char).utf8Size = 1 := by decide

theorem lead_at_boundary (s : List Char) (i : Nat) (hi : i < blen s) (hb : isBoundary (bytesOf s) i = true) :
    ∃ c, (bytesOf s)[i]? = some (.lead c) ∧ i + c.utf8Size ≤ blen s ∧ isBoundary (bytesOf s) (i + c.utf8Size) = true := by
  obtain ⟨s1, s2, rfl, rfl, _⟩ := split_at_boundary s i (Nat.le_of_lt hi) hb
  cases s2 with
  | nil => rw [List.append_nil] at hi; exact absurd hi (Nat.lt_irrefl _)
  | cons c cs =>
    refine ⟨c, ?_, ?_, ?_⟩
    · rw [bytesOf_append, ← bytesOf_length s1, List.getElem?_append_right (Nat.le_refl _), Nat.sub_self]
      rfl
    · rw [blen_append, blen_cons]
      exact Nat.add_le_add_left (Nat.le_add_right _ _) _
    · have := isBoundary_blen_prefix (s1 ++ [c]) cs
      rwa [blen_append, List.append_assoc] at this

theorem boundary_after_lead (s : List Char) (i : Nat) (c : Char) (h : (bytesOf s)[i]? = some (.lead c)) :
    isBoundary (bytesOf s) i = true := isBoundary_of_lead _ i c h

theorem skip_at_boundary (s : List Char) (i : Nat) (x : ABy) (hb : isBoundary (bytesOf s) i = true)
    (hx : (bytesOf s)[i]? = some x) (hsk : isSkipByte x) :
    isBlankByte x ∧ isBoundary (bytesOf s) (i + 1) = true := by
  have hi : i < blen s := bytesOf_length s ▸ lt_of_getElem?_some _ _ _ hx
  obtain ⟨c, hc, _, hb'⟩ := lead_at_boundary s i hi hb
  obtain rfl : ABy.lead c = x := Option.some.inj (hc.symm.trans hx)
  rcases hsk with h | h | h
  · cases h
  · cases h; exact ⟨Or.inl rfl, utf8Size_space ▸ hb'⟩
  · cases h; exact ⟨Or.inr rfl, utf8Size_tab ▸ hb'⟩

theorem skip_run_blank (s : List Char) (a z : Nat) (hb : isBoundary (bytesOf s) a = true)
    (hrun : ∀ i, a ≤ i → i < z → ∃ x, (bytesOf s)[i]? = some x ∧ isSkipByte x) :
    (∀ i, a ≤ i → i < z → ∃ x, (bytesOf s)[i]? = some x ∧ isBlankByte x) ∧
    (z ≤ blen s → a ≤ z → isBoundary (bytesOf s) z = true) := by
  rcases Nat.lt_or_ge z a with hza | haz
  · exact ⟨fun i h1 h2 => absurd (Nat.lt_of_le_of_lt h1 h2) (Nat.lt_asymm hza), fun _ h => absurd hza (Nat.not_lt_of_le h)⟩
  · obtain ⟨n, rfl⟩ := Nat.exists_eq_add_of_le haz
    clear haz
    induction n with
    | zero => exact ⟨fun i h1 h2 => absurd h2 (Nat.not_lt_of_le h1), fun _ _ => hb⟩
    | succ n ih =>
      obtain ⟨r1, r2⟩ := ih (fun i h1 h2 => hrun i h1 (Nat.lt_succ_of_lt h2))
      obtain ⟨x, hx, hsk⟩ := hrun (a + n) (Nat.le_add_right a n) (Nat.lt_succ_self _)
      have hz : a + n ≤ blen s := Nat.le_of_lt (bytesOf_length s ▸ lt_of_getElem?_some _ _ _ hx)
      obtain ⟨hbl, hb'⟩ := skip_at_boundary s (a + n) x (r2 hz (Nat.le_add_right a n)) hx hsk
      refine ⟨fun i h1 h2 => ?_, fun _ _ => hb'⟩
      rcases Nat.lt_succ_iff_lt_or_eq.mp h2 with h2 | rfl
      · exact r1 i h1 h2
      · exact ⟨x, hx, hbl⟩

theorem nl_next_boundary (s : List Char) (p : Nat) (h : (bytesOf s)[p]? = some (.lead '\n')) :
    isBoundary (bytesOf s) (p + 1) = true ∧ p + 1 ≤ blen s := by
  have hlt : p < blen s := bytesOf_length s ▸ lt_of_getElem?_some _ _ _ h
  obtain ⟨c, hc, hle, hb⟩ := lead_at_boundary s p hlt (isBoundary_of_lead _ p _ h)
  obtain rfl : c = '\n' := ABy.lead.inj (Option.some.inj (hc.symm.trans h))
  rw [utf8Size_nl] at hb hle
  exact ⟨hb, hle⟩

end Chiritori
