import Chiritori.Spec.Defs
/-
  Decision logic: the model's evaluator registry / skip test against the reference readiness formula.
-/
namespace Chiritori
open Spec

theorem isSkip_eq_hasAttr (el : Element) : isSkip el = hasAttr el "skip" := rfl

theorem firstAttr_bind_value (el : Element) (n : String) :
    (firstAttr el n.toList).bind (·.value) = attrValue el n := by
  unfold firstAttr attrValue
  cases el.attrs.find? (fun a => a.name == n.toList) <;> rfl

theorem markerIsRemoval_eq_targeted (cfg : Cfg) (el : Element) :
    markerIsRemoval cfg el = targeted cfg el := by
  unfold markerIsRemoval targeted
  rw [firstAttr_bind_value]
  cases attrValue el "name" <;> rfl

theorem timeIsRemoval_eq_expired (cfg : Cfg) (el : Element) :
    timeIsRemoval cfg el = expired cfg el := by
  unfold timeIsRemoval expired
  rw [← firstAttr_bind_value]
  cases firstAttr el "to".toList with
  | none => rfl
  | some a =>
    obtain ⟨_, v⟩ := a
    cases v with
    | none => rfl
    | some v => dsimp only [Option.bind_some]; cases chronoParse (v ++ [' '] ++ cfg.offset) <;> rfl

theorem markerIsRemoval_iff (cfg : Cfg) (el : Element) :
    markerIsRemoval cfg el = true ↔ ∃ v, attrValue el "name" = some v ∧ v ∈ cfg.targets := by
  rw [markerIsRemoval_eq_targeted, targeted]
  cases attrValue el "name" <;> simp

theorem markerIsRemoval_of_no_targets (cfg : Cfg) (el : Element) (h : cfg.targets = []) :
    markerIsRemoval cfg el = false := by
  rw [markerIsRemoval_eq_targeted, targeted, h]
  cases attrValue el "name" <;> rfl

theorem timeIsRemoval_iff (cfg : Cfg) (el : Element) :
    timeIsRemoval cfg el = true ↔ ∃ v, attrValue el "to" = some v ∧
      ∃ ex, chronoParse (v ++ [' '] ++ cfg.offset) = some ex ∧ instantLt (cfg.now, cfg.nowNanos) ex = false := by
  rw [timeIsRemoval_eq_expired, expired]
  cases attrValue el "to" with
  | none => simp
  | some v =>
    simp only [Option.some.injEq, exists_eq_left']
    cases chronoParse (v ++ [' '] ++ cfg.offset) <;> simp

/-- The registry has an evaluator exactly for the two configured names, and what it answers for an element of
    that name is the specification's verdict. When both names are equal the removal-marker evaluator is the one
    found, which is the `el.name != cfg.rmName` guard of `conditionHolds`. -/
theorem evaluatorFor_spec (cfg : Cfg) (el : Element) :
    match evaluatorFor cfg el.name with
    | some ev => (el.name == cfg.rmName || el.name == cfg.tlName) = true ∧
        (!hasAttr el "skip" && ev el) = conditionHolds cfg el
    | none => (el.name == cfg.rmName || el.name == cfg.tlName) = false ∧ conditionHolds cfg el = false := by
  unfold evaluatorFor conditionHolds
  by_cases h1 : el.name = cfg.rmName
  · simp [h1, markerIsRemoval_eq_targeted]
  · by_cases h2 : el.name = cfg.tlName
    · have h3 : ¬ cfg.tlName = cfg.rmName := h2 ▸ h1
      have h4 : (cfg.tlName == cfg.rmName) = false := by simpa using h3
      simp [h2, h3, h4, bne, timeIsRemoval_eq_expired]
    · simp [h1, h2]

theorem elementRange_eq (cfg : Cfg) (content : Bytes) (all : Bool) (el : Element) (st en : Token) :
    elementRange cfg content all el st en =
      if (createRange content el st en).1.isEmpty then none
      else if conditionHolds cfg el then
        some ((createRange content el st en).1, (createRange content el st en).2, true)
      else if all && conditionPending cfg el then
        some ((createRange content el st en).1, (createRange content el st en).2, false)
      else none := by
  have hv := evaluatorFor_spec cfg el
  unfold conditionPending elementRange
  rw [← isSkip_eq_hasAttr] at hv ⊢
  cases he : evaluatorFor cfg el.name with
  | none =>
    rw [he] at hv
    simp [hv.1, hv.2]
  | some ev =>
    rw [he] at hv
    simp only [← hv.2, hv.1]
    cases createRange content el st en with
    | mk r p => cases isSkip el <;> cases ev el <;> cases all <;> cases hr : r.isEmpty <;> simp [hr]

theorem elementRange_ready_iff (cfg : Cfg) (content : Bytes) (all : Bool) (el : Element) (st en : Token) :
    (∃ r p, elementRange cfg content all el st en = some (r, p, true)) ↔
      (conditionHolds cfg el = true ∧ (createRange content el st en).1.isEmpty = false) := by
  rw [elementRange_eq]
  cases (createRange content el st en).1.isEmpty <;> cases conditionHolds cfg el <;> simp

end Chiritori
