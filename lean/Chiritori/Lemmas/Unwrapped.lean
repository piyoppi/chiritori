import Chiritori.Lemmas.DecideLit
import Chiritori.Lemmas.Reparse
/-
  Unwrapping: taking the two tags of an element out and keeping its children.  The hypothesis of `parse_unwrapped` is
  needed: the two tags of a block cut the openers inside it off from closers behind it (known finding D19, second form).
-/
namespace Chiritori
open Spec

mutual
/-- the forest with the elements selected by `P` replaced by their children -/
def spliceParts (P : Element → Bool) : List Part → List Part
  | [] => []
  | p :: ps => splicePart P p ++ spliceParts P ps
def splicePart (P : Element → Bool) : Part → List Part
  | .text t => [.text t]
  | .element el st en ch => if P el then spliceParts P ch else [.element el st en (spliceParts P ch)]
end

mutual
/-- no unwrapped element has an unclosed opening tag at the top level of its body -/
def BodiesClosed (ds de : List Char) (P : Element → Bool) : List Part → Prop
  | [] => True
  | p :: ps => BodyClosed ds de P p ∧ BodiesClosed ds de P ps
def BodyClosed (ds de : List Char) (P : Element → Bool) : Part → Prop
  | .text _ => True
  | .element el _ _ ch => (P el = true → demotedNames ds de ch = []) ∧ BodiesClosed ds de P ch
end

theorem closerCond_mono (el : Element) (names names' : List (List Char)) (hsub : names' ⊆ names)
    (h : ¬ closerCond el names) : ¬ closerCond el names' := by
  refine fun hc => h ⟨hc.1, ?_⟩
  obtain ⟨x, hx, hxe⟩ := List.any_eq_true.mp hc.2
  exact List.any_eq_true.mpr ⟨x, hsub hx, hxe⟩

theorem OKS_mono (ds de : List Char) (H : List Part) (names names' : List (List Char))
    (hsub : names' ⊆ names) (h : OKS ds de names H) : OKS ds de names' H := by
  induction H using parts_induction generalizing names names' with
  | nil => trivial
  | text t rest ih =>
    obtain ⟨h1, h2⟩ := h
    simp only [OKP, ctxOf] at h1 h2
    simp only [OKS, OKP, ctxOf]
    cases he : elparse ds de t with
    | none => rw [he] at h2; exact ⟨trivial, ih _ _ hsub h2⟩
    | some el =>
      rw [he] at h1 h2
      exact ⟨closerCond_mono el names names' hsub h1, ih _ _ (List.cons_subset_cons el.name hsub) h2⟩
  | element el st en ch rest ihc ihr =>
    obtain ⟨⟨a1, a2, a3, a4, a5⟩, h2⟩ := h
    exact ⟨⟨a1, closerCond_mono el names names' hsub a2, a3, ihc _ _ (List.cons_subset_cons el.name hsub) a4, a5⟩,
      ihr _ _ hsub h2⟩

theorem demotedNames_splice (ds de : List Char) (P : Element → Bool) (H : List Part) (h : BodiesClosed ds de P H) :
    demotedNames ds de (spliceParts P H) = demotedNames ds de H := by
  induction H using parts_induction with
  | nil => rfl
  | text t rest ih => simp only [spliceParts, splicePart, List.singleton_append, demotedNames, ih h.2]
  | element el st en ch rest ihc ihr =>
    obtain ⟨⟨h1, h2⟩, h3⟩ := h
    simp only [spliceParts, splicePart, demotedNames]
    split
    · rename_i hp
      rw [demotedNames_append, ihc h2, h1 hp, ihr h3]
      rfl
    · simp [demotedNames, ihr h3]

theorem OKS_splice (ds de : List Char) (P : Element → Bool) (H : List Part) (names : List (List Char))
    (hb : BodiesClosed ds de P H) (h : OKS ds de names H) : OKS ds de names (spliceParts P H) := by
  induction H using parts_induction generalizing names with
  | nil => trivial
  | text t rest ih => exact ⟨h.1, ih _ hb.2 h.2⟩
  | element el st en ch rest ihc ihr =>
    obtain ⟨⟨hb1, hb2⟩, hb3⟩ := hb
    have hd := demotedNames_splice ds de P ch hb2
    have ihch := ihc _ hb2 h.1.2.2.2.1
    simp only [spliceParts, splicePart]
    split
    · rename_i hp
      -- the children take the place of the element: they are fine under fewer names, and leave no opener behind
      rw [OKS_append_nodemoted ds de _ _ names (hd.trans (hb1 hp))]
      exact ⟨OKS_mono ds de _ (el.name :: names) names (List.subset_cons_self _ _) ihch, ihr names hb3 h.2⟩
    · exact ⟨OKP_children ds de names el st en ch _ h.1 ihch hd, ihr names hb3 h.2⟩

/-- unwrapping creates no new pairings: when no unwrapped element has an unclosed opening tag at the top level of its
    body, parsing what is left of a document after the tags of the selected elements were taken out gives the forest
    with those elements replaced by their children -/
theorem parse_unwrapped (ds de : List Char) (P : Element → Bool) (toks : List Token)
    (h : BodiesClosed ds de P (parse ds de toks)) :
    parse ds de (flattenParts (spliceParts P (parse ds de toks))) = spliceParts P (parse ds de toks) := by
  rw [parse_eq_stackParse ds de (flattenParts _)]
  exact stackParse_flatten_of_OKS ds de _ (OKS_splice ds de P _ [] h (parse_OKS ds de toks))

/-! The second form of D19: `<tl>` with an unclosed `<rm>` inside and a stray `</rm>` behind it. In the forest `<rm>` and
    `</rm>` are text; without the tags of `<tl>` they pair. -/
def uwBad : List Char := "<tl>\n<rm>\nbody\n</tl>\nx\n</rm>\n".toList
def uwGood : List Char := "<tl>\n<rm>\nbody\n</rm>\n</tl>\nx\n".toList
def isTl (el : Element) : Bool := el.name == "tl".toList

example :
    let G := parse "<".toList ">".toList (tokenize uwBad "<".toList ">".toList)
    (elementsOf G).length = 1 ∧
    (elementsOf (parse "<".toList ">".toList (flattenParts (spliceParts isTl G)))).length = 1 ∧
    (elementsOf (spliceParts isTl G)).length = 0 := by decide_lit uwBad isTl

example :
    let G := parse "<".toList ">".toList (tokenize uwGood "<".toList ">".toList)
    (elementsOf G).length = 2 ∧
    (elementsOf (parse "<".toList ">".toList (flattenParts (spliceParts isTl G)))).map (·.1.name) = ["rm".toList] ∧
    (elementsOf (spliceParts isTl G)).map (·.1.name) = ["rm".toList] := by decide_lit uwGood isTl

end Chiritori
