import Chiritori.Lemmas.Finders
import Chiritori.Spec.Defs
/-
  The byte-wise finders against the table of line breaks.
-/
namespace Chiritori
open Spec

/-- `build_line_map` keeps, of the positions from `i` on, those that hold a line break -/
theorem lineMapAux_eq (bs : Bytes) (i : Nat) :
    lineMapAux bs i = ((bs.zipIdx i).filter (fun x => x.1 == NL)).map (·.2) := by
  induction bs generalizing i with
  | nil => rfl
  | cons x rest ih =>
    rw [List.zipIdx_cons, List.filter_cons]
    cases x with
    | cont => simpa [lineMapAux] using ih (i + 1)
    | lead c => by_cases hc : c = '\n' <;> simp [lineMapAux, hc, ih (i + 1)]

theorem mem_lineMapAux (bs : Bytes) (i p : Nat) : p ∈ lineMapAux bs i ↔ i ≤ p ∧ bs[p - i]? = some NL := by
  simp only [lineMapAux_eq, List.mem_map, List.mem_filter, Prod.exists, exists_eq_right, beq_iff_eq,
    List.mk_mem_zipIdx_iff_le_and_getElem?_sub]

theorem mem_lineBreaks (b : Bytes) (p : Nat) : p ∈ lineBreaks b ↔ b[p]? = some NL := by
  simp [lineBreaks, buildLineMap, mem_lineMapAux]

theorem lineMapAux_sorted (bs : Bytes) (i : Nat) : (lineMapAux bs i).Pairwise (· < ·) := by
  have := (List.filter_sublist (p := fun x : ABy × Nat => x.1 == NL) (l := bs.zipIdx i)).map Prod.snd
  rw [List.zipIdx_map_snd, ← lineMapAux_eq] at this
  exact List.Pairwise.sublist this List.pairwise_lt_range'

theorem lineBreaks_sorted (b : Bytes) : (lineBreaks b).Pairwise (· < ·) := lineMapAux_sorted b 0

theorem find?_ge_of_sorted (l : List Nat) (hs : l.Pairwise (· < ·)) (pos p : Nat) (hp : p ∈ l) (hge : pos ≤ p)
    (hmin : ∀ q ∈ l, pos ≤ q → p ≤ q) : l.find? (fun q => decide (q ≥ pos)) = some p := by
  obtain ⟨s, t, rfl⟩ := List.append_of_mem hp
  rw [List.find?_eq_some_iff_append]
  refine ⟨by simpa using hge, s, t, rfl, fun a ha => ?_⟩
  -- what stands in front of `p` is smaller than `p`, hence below the bound
  have hlt : a < p := (List.pairwise_append.mp hs).2.2 a ha p (by simp)
  have := hmin a (by simp [ha])
  simp only [ge_iff_le, Bool.not_eq_eq_eq_not, Bool.not_true, decide_eq_false_iff_not]
  omega

theorem find?_gt_of_sorted (l : List Nat) (hs : l.Pairwise (· < ·)) (pos p : Nat) (hp : p ∈ l) (hgt : pos < p)
    (hmin : ∀ q ∈ l, pos < q → p ≤ q) : l.find? (fun q => decide (q > pos)) = some p :=
  -- `q > pos` unfolds to `q ≥ pos + 1`
  find?_ge_of_sorted l hs (pos + 1) p hp hgt hmin

theorem getLast?_filter_of_sorted (l : List Nat) (hs : l.Pairwise (· < ·)) (P : Nat → Bool) (p : Nat)
    (hp : p ∈ l) (hP : P p = true) (hmax : ∀ q ∈ l, P q = true → q ≤ p) : (l.filter P).getLast? = some p := by
  obtain ⟨s, t, rfl⟩ := List.append_of_mem hp
  -- what stands behind `p` is greater than `p`, hence filtered out
  have ht : t.filter P = [] := List.filter_eq_nil_iff.mpr fun q hq hPq => by
    have hlt : p < q := (List.pairwise_cons.mp (List.pairwise_append.mp hs).2.1).1 q hq
    have := hmax q (by simp [hq]) hPq
    omega
  rw [List.filter_append, List.filter_cons_of_pos hP, ht, List.getLast?_append, List.getLast?_singleton]
  rfl

theorem getLast?_filter_none (l : List Nat) (P : Nat → Bool) (h : ∀ q ∈ l, P q = false) :
    (l.filter P).getLast? = none := by
  have : l.filter P = [] := by
    rw [List.filter_eq_nil_iff]
    intro q hq; simp [h q hq]
  simp [this]

theorem findNextLB_false_eq (b : Bytes) (pos : Nat) (hpos : 0 < pos) :
    findNextLB b pos false = (lineBreaks b).find? (fun q => decide (q ≥ pos)) := by
  cases h : findNextLB b pos false with
  | some p =>
    obtain ⟨_, h2, h4, h5⟩ := (findNextLB_eq_some_iff b pos p false).mp h
    symm
    apply find?_ge_of_sorted _ (lineBreaks_sorted b) pos p ((mem_lineBreaks b p).mpr h4) h2
    intro q hq hge
    by_cases hlt : q < p
    · exact absurd ((mem_lineBreaks b q).mp hq) (h5 q hge hlt).1
    · omega
  | none =>
    have := findNextLB_none_false b pos hpos h
    symm
    rw [List.find?_eq_none]
    intro q hq
    simp only [decide_eq_true_eq, Nat.not_le]
    by_cases hge : pos ≤ q
    · exact absurd ((mem_lineBreaks b q).mp hq) (this q hge)
    · omega

theorem findPrevLB_false_eq (b : Bytes) (pos : Nat) (hle : pos ≤ b.length) :
    findPrevLB b pos false = ((lineBreaks b).filter (fun p => decide (p < pos ∧ p ≥ 1))).getLast? := by
  cases h : findPrevLB b pos false with
  | some p =>
    obtain ⟨h1, h2, _, h4, h5⟩ := (findPrevLB_eq_some_iff b pos p false).mp h
    symm
    apply getLast?_filter_of_sorted _ (lineBreaks_sorted b) _ p ((mem_lineBreaks b p).mpr h4)
    · simp; omega
    · intro q hq hP
      simp only [decide_eq_true_eq] at hP
      by_cases hgt : p < q
      · exact absurd ((mem_lineBreaks b q).mp hq) (h5 q hgt hP.1).1
      · omega
  | none =>
    have := findPrevLB_none_false b pos hle h
    symm
    apply getLast?_filter_none
    intro q hq
    simp only [decide_eq_false_iff_not, not_and, Nat.not_le]
    intro hlt
    by_cases h0 : 0 < q
    · exact absurd ((mem_lineBreaks b q).mp hq) (this q h0 hlt)
    · omega

/-- the wrapper parts, when there are any: `h` runs from the opening tag to the second line break `p2` of the table
    at or behind its end (`p1` the first), `t` from behind the second line break `q2` in front of the closing tag
    (`q1` the first) to the end of that tag, and `h` ends before `t` starts -/
theorem unwrapParts_eq_some_iff (b : Bytes) (st en : Token) (h t : Rng) :
    unwrapParts b st en = some (h, t) ↔
      ∃ p1 p2 q1 q2, (lineBreaks b).find? (fun p => decide (p ≥ st.bstop)) = some p1 ∧
        (lineBreaks b).find? (fun p => decide (p > p1)) = some p2 ∧
        ((lineBreaks b).filter (fun p => decide (p < en.bstart ∧ p ≥ 1))).getLast? = some q1 ∧
        ((lineBreaks b).filter (fun p => decide (p < q1 ∧ p ≥ 1))).getLast? = some q2 ∧
        p2 ≤ q2 ∧ h = (st.bstart, p2) ∧ t = (q2 + 1, en.bstop) := by
  unfold unwrapParts
  dsimp only
  constructor
  · intro hu
    split at hu
    · cases hu
    · split at hu
      · cases hu
      · split at hu
        · cases hu
        · split at hu
          · cases hu
          · split at hu
            · rename_i _ p1 hp1 _ p2 hp2 _ q1 hq1 _ q2 hq2 hv
              cases hu
              exact ⟨p1, p2, q1, q2, hp1, hp2, hq1, hq2, hv, rfl, rfl⟩
            · cases hu
  · rintro ⟨p1, p2, q1, q2, hp1, hp2, hq1, hq2, hv, rfl, rfl⟩
    simp only [hp1, hp2, hq1, hq2, ge_iff_le, hv, if_true]

theorem unwrapParts_finders (b : Bytes) (st en : Token) (h t : Rng) (h0 : 0 < st.bstop)
    (hlen : en.bstart ≤ b.length) :
    unwrapParts b st en = some (h, t) ↔
      ∃ p1 p2 q1 q2, findNextLB b st.bstop false = some p1 ∧ findNextLB b (p1 + 1) false = some p2 ∧
        findPrevLB b en.bstart false = some q1 ∧ findPrevLB b q1 false = some q2 ∧
        p2 ≤ q2 ∧ h = (st.bstart, p2) ∧ t = (q2 + 1, en.bstop) := by
  rw [unwrapParts_eq_some_iff, findNextLB_false_eq b st.bstop h0, findPrevLB_false_eq b en.bstart hlen]
  refine exists_congr fun p1 => exists_congr fun p2 => exists_congr fun q1 => exists_congr fun q2 => ?_
  -- `p > p1` and `p ≥ p1 + 1` are the same proposition
  rw [findNextLB_false_eq b (p1 + 1) (Nat.succ_pos _)]
  refine and_congr_right fun _ => and_congr_right fun _ => and_congr_right_iff.mpr fun hq1 => ?_
  -- `q1` comes from the table of line breaks in front of the closing tag
  have h1 := (List.mem_filter.mp (List.mem_of_getLast? hq1)).2
  simp only [decide_eq_true_eq] at h1
  rw [findPrevLB_false_eq b q1 (Nat.le_trans (Nat.le_of_lt h1.1) hlen)]

/-- `UnwrapBlockMarkerBuilder::build` computes the two wrapper parts of the specification. -/
theorem buildUnwrap_eq (b : Bytes) (st en : Token) (h1 : 0 < st.bstop) (h2 : en.bstart ≤ b.length) :
    buildUnwrap b st en =
      match unwrapParts b st en with
      | some (h, t) => (h, some t)
      | none => ((st.bstart, st.bstart), none) := by
  unfold buildUnwrap
  dsimp only
  cases hu : unwrapParts b st en with
  | some ht =>
    obtain ⟨h, t⟩ := ht
    obtain ⟨p1, p2, q1, q2, hp1, hp2, hq1, hq2, hv, rfl, rfl⟩ := (unwrapParts_finders b st en h t h1 h2).mp hu
    simp only [hp1, hp2, hq1, hq2, Option.bind_some]
    rw [if_pos hv]
  | none =>
    cases he : (findNextLB b st.bstop false).bind fun p => findNextLB b (p + 1) false with
    | none => rfl
    | some p2 =>
      cases hs : (findPrevLB b en.bstart false).bind fun q => findPrevLB b q false with
      | none => rfl
      | some q2 =>
        simp only
        split
        · -- the code succeeds: so does the specification
          rename_i hv
          obtain ⟨p1, hp1, hp2⟩ := Option.bind_eq_some_iff.mp he
          obtain ⟨q1, hq1, hq2⟩ := Option.bind_eq_some_iff.mp hs
          have := (unwrapParts_finders b st en _ _ h1 h2).mpr ⟨p1, p2, q1, q2, hp1, hp2, hq1, hq2, hv, rfl, rfl⟩
          rw [hu] at this; cases this
        · rfl

def nlBefore (b : Bytes) (pos : Nat) : Nat := (b.take pos).count NL

end Chiritori
