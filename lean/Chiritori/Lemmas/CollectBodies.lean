import Chiritori.Lemmas.PairBody
import Chiritori.Lemmas.Collect
/-
  The bodies of the unwrap nodes `collect` builds are bodies of ready unwrapped elements (`Spec.unwrappedBodies`).
-/
namespace Chiritori
open Spec

theorem bodiesOf_append (a c : List RTree) : bodiesOf (a ++ c) = bodiesOf a ++ bodiesOf c := by
  induction a with
  | nil => rfl
  | cons t ts ih => simp only [List.cons_append, bodiesOf, ih, List.append_assoc]

def bodyOfEl (cfg : Cfg) (b : Bytes) (e : Element × Token × Token) : List Rng :=
  if conditionHolds cfg e.1 ∧ hasAttr e.1 "unwrap-block" then
    match unwrapParts b e.2.1 e.2.2 with
    | some (h, t) => [(h.2, t.1)]
    | none => []
  else []

theorem unwrappedBodies_eq (cfg : Cfg) (b : Bytes) (parts : List Part) :
    unwrappedBodies cfg b parts = (elementsOf parts).flatMap (bodyOfEl cfg b) := by
  unfold unwrappedBodies
  congr 1

theorem selTree_bodies (cfg : Cfg) (b : Bytes) :
    (∀ p lo hi, BSpan (flattenPart p) lo hi → hi ≤ b.length →
      ∀ x ∈ bodiesOf (selTreePart (conditionHolds cfg) b p), ∃ e ∈ elementsOfPart p, x ∈ bodyOfEl cfg b e) ∧
    (∀ ps lo hi, BSpan (flattenParts ps) lo hi → hi ≤ b.length →
      ∀ x ∈ bodiesOf (selTree (conditionHolds cfg) b ps), ∃ e ∈ elementsOf ps, x ∈ bodyOfEl cfg b e) := by
  apply part_parts_induction
  · intro t lo hi _ _ x hx; cases hx
  · intro el st en ch ih lo hi hs hlen x hx
    obtain ⟨hst, hst2, hmid, hch, hen2, hen3, hlen'⟩ := BSpan_element el st en ch lo hi _ hs hlen
    have hchild : ∀ x ∈ bodiesOf (selTree (conditionHolds cfg) b ch),
        ∃ e ∈ elementsOfPart (.element el st en ch), x ∈ bodyOfEl cfg b e := fun x hx => by
      obtain ⟨e, he, hxe⟩ := ih st.bstop en.bstart hch hlen' x hx
      exact ⟨e, List.mem_cons_of_mem _ he, hxe⟩
    rcases selTreePart_cases (conditionHolds cfg) b el st en ch hst2 hlen' with
      ⟨he, _⟩ | ⟨_, _, he⟩ | ⟨hc, e, s, _, _, _, ha, hu, _, he⟩
    · rw [he] at hx; exact hchild x hx
    · rw [he] at hx
      simp only [bodiesOf, bodiesOfT, List.nil_append, List.append_nil] at hx
      exact hchild x hx
    · rw [he] at hx
      simp only [bodiesOf, bodiesOfT, List.append_nil, List.singleton_append, List.mem_cons] at hx
      rcases hx with rfl | hx
      · refine ⟨(el, st, en), List.mem_cons_self, ?_⟩
        simp only [bodyOfEl, hc, ha, and_self, if_true, hu, List.mem_singleton]
      · exact hchild x hx
  · intro lo hi _ _ x hx; cases hx
  · intro p ps hp hps lo hi hs hlen x hx
    obtain ⟨mid, hs1, hs2, hmid⟩ := BSpan_parts_cons p ps lo hi _ hs hlen
    simp only [selTree, bodiesOf_append, List.mem_append] at hx
    rcases hx with hx | hx
    · obtain ⟨e, he, hxe⟩ := hp lo mid hs1 hmid x hx
      exact ⟨e, List.mem_append_left _ he, hxe⟩
    · obtain ⟨e, he, hxe⟩ := hps mid hi hs2 hlen x hx
      exact ⟨e, List.mem_append_right _ he, hxe⟩

theorem collect_bodies (cfg : Cfg) (b : Bytes) : ∀ (parts : List Part) (lo hi : Nat),
    BSpan (flattenParts parts) lo hi → hi ≤ b.length →
    ∀ x ∈ bodiesOf (collect cfg b false parts).1, ∃ e ∈ elementsOf parts, x ∈ bodyOfEl cfg b e := by
  intro parts lo hi hs hlen
  rw [(collect_eq_selTree cfg b false).2]
  exact (selTree_bodies cfg b).2 parts lo hi hs hlen

theorem collectPart_bodies (cfg : Cfg) (b : Bytes) : ∀ (p : Part) (lo hi : Nat),
    BSpan (flattenPart p) lo hi → hi ≤ b.length →
    ∀ x ∈ bodiesOf (collectPart cfg b false p).1, ∃ e ∈ elementsOfPart p, x ∈ bodyOfEl cfg b e := by
  intro p lo hi hs hlen
  rw [(collect_eq_selTree cfg b false).1]
  exact (selTree_bodies cfg b).1 p lo hi hs hlen

end Chiritori
