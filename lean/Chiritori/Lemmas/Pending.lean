import Chiritori.Lemmas.Markers
/-
  The pending merge of `build_remove_marker_all`.
-/
namespace Chiritori

/-- `range.contains(&p.start) && range.contains(&p.end)` -/
def squashes (r p : Marker) : Bool :=
  decide (r.start ≤ p.start) && decide (p.start < r.stop) && (decide (r.start ≤ p.stop) && decide (p.stop < r.stop))

theorem squashes_eq_false (r p : Marker) (h : p.start < r.start ∨ r.stop ≤ p.start) : squashes r p = false := by
  simp only [squashes, Bool.and_eq_false_iff, decide_eq_false_iff_not]
  omega

/-- the inner loop of `build_remove_marker_all` (`popPending`) in closed form: the pending ranges that start in front
    of the end of `range` leave the list, and those of them that `range` does not contain at both ends are handed out -/
theorem popPending_eq (range : Rng) (pending : List Marker) :
    popPending range pending =
      (((pending.takeWhile fun p => p.start < range.2).filter fun p =>
          !(range.contains p.start && range.contains p.stop)).map fun p => (p, false),
        pending.dropWhile fun p => p.start < range.2) := by
  induction pending with
  | nil => rfl
  | cons p ps ih =>
    rw [popPending, List.takeWhile_cons, List.dropWhile_cons]
    by_cases h : p.start < range.2
    · rw [if_neg (Nat.not_le_of_lt h), ih, if_pos (decide_eq_true h), if_pos (decide_eq_true h), List.filter_cons]
      cases range.contains p.start && range.contains p.stop <;> rfl
    · rw [if_pos (Nat.le_of_not_lt h), if_neg (by simpa using h), if_neg (by simpa using h)]
      rfl

theorem popPending_marker (r : Marker) (pending : List Marker) :
    popPending (r.start, r.stop) pending =
      (((pending.takeWhile fun p => p.start < r.stop).filter fun p => !squashes r p).map fun p => (p, false),
        pending.dropWhile fun p => p.start < r.stop) :=
  popPending_eq (r.start, r.stop) pending

theorem popPending_mem (range : Rng) (pending : List Marker) :
    (∀ x ∈ (popPending range pending).1, x.1 ∈ pending) ∧ (∀ p ∈ (popPending range pending).2, p ∈ pending) := by
  rw [popPending_eq]
  refine ⟨fun x hx => ?_, fun p hp => (List.dropWhile_sublist _).mem hp⟩
  obtain ⟨p, hp, rfl⟩ := List.mem_map.mp hx
  exact (List.takeWhile_sublist _).mem (List.mem_filter.mp hp).1

theorem mergePending_mem : ∀ (ready pending : List Marker),
    ∀ x ∈ mergePending ready pending, x.1 ∈ ready ∨ x.1 ∈ pending
  | [], pending => by
    intro x hx
    obtain ⟨p, hp, rfl⟩ := List.mem_map.mp hx
    exact Or.inr hp
  | r :: rs, pending => by
    intro x hx
    obtain ⟨m1, m2⟩ := popPending_mem (r.start, r.stop) pending
    simp only [mergePending, List.mem_append, List.mem_singleton] at hx
    rcases hx with (hx | rfl) | hx
    · exact Or.inr (m1 x hx)
    · exact Or.inl List.mem_cons_self
    · exact (mergePending_mem rs _ x hx).imp (List.mem_cons_of_mem _) (m2 _)

/-- every Ready range appears exactly once, in order, flagged Ready -/
theorem mergePending_ready (ready : List Marker) : ∀ (pending : List Marker),
    (mergePending ready pending).filter (·.2) = ready.map fun r => (r, true) := by
  induction ready with
  | nil =>
    intro pending
    simp only [mergePending, List.map_nil, List.filter_eq_nil_iff, List.mem_map]
    rintro x ⟨p, _, rfl⟩
    simp
  | cons r rs ih =>
    intro pending
    have h1 : (popPending (r.start, r.stop) pending).1.filter (·.2) = [] := by
      rw [popPending_eq, List.filter_eq_nil_iff]
      rintro x hx
      obtain ⟨p, _, rfl⟩ := List.mem_map.mp hx
      exact Bool.false_ne_true
    simp only [mergePending, List.filter_append, h1, List.nil_append, List.map_cons]
    simp [ih]

theorem MSorted_starts_ge (l : List Marker) (lo hi : Nat) (h : MSorted l lo hi) : ∀ q ∈ l, lo ≤ q.start :=
  fun q hq => (MSorted_bounds l lo hi h q hq).1

theorem MSorted_sublist {l' l : List Marker} (hl : l'.Sublist l) : ∀ (lo hi : Nat), MSorted l lo hi → MSorted l' lo hi := by
  induction hl with
  | slnil => exact fun _ _ h => h
  | cons a _ ih =>
    intro lo hi h
    exact MSorted_widen _ a.stop hi lo hi (ih a.stop hi h.2.2) (Nat.le_trans h.1 (Nat.le_of_lt h.2.1)) (Nat.le_refl _)
  | cons_cons a _ ih => exact fun lo hi h => ⟨h.1, h.2.1, ih a.stop hi h.2.2⟩

theorem dropWhile_start_ge (l : List Marker) (lo hi b : Nat) (h : MSorted l lo hi) :
    ∀ q ∈ l.dropWhile fun p => p.start < b, b ≤ q.start := by
  induction l generalizing lo with
  | nil => intro q hq; cases hq
  | cons x xs ih =>
    obtain ⟨_, g2, g3⟩ := h
    rw [List.dropWhile_cons]
    split
    · exact ih x.stop g3
    · rename_i hx
      intro q hq
      have hx : b ≤ x.start := by simpa using hx
      rcases List.mem_cons.mp hq with rfl | hq
      · exact hx
      · exact Nat.le_trans hx (Nat.le_trans (Nat.le_of_lt g2) (MSorted_starts_ge xs x.stop hi g3 q hq))

theorem takeWhile_start_lt (l : List Marker) (b : Nat) : ∀ q ∈ l.takeWhile fun p => p.start < b, q.start < b :=
  fun q hq => by simpa using List.all_eq_true.mp List.all_takeWhile q hq

/-- a pending range is swallowed when some ready range contains both of its ends -/
def swallowed (ready : List Marker) (p : Marker) : Bool := ready.any fun r => squashes r p

theorem filter_pending_map (l : List Marker) :
    (l.map fun p => (p, false)).filter (fun x => !x.2) = l.map fun p => (p, false) :=
  List.filter_eq_self.mpr fun x hx => by obtain ⟨p, _, rfl⟩ := List.mem_map.mp hx; rfl

/-- C17: the Pending items of `list_all` are exactly the pending ranges that no ready range swallows, in order -/
theorem mergePending_pending (ready : List Marker) : ∀ (pending : List Marker) (lo hi lo' hi' : Nat),
    MSorted ready lo hi → MSorted pending lo' hi' →
    (mergePending ready pending).filter (fun x => !x.2) =
      (pending.filter fun p => !swallowed ready p).map fun p => (p, false) := by
  induction ready with
  | nil =>
    intro pending _ _ _ _ _ _
    simp only [mergePending, swallowed, List.any_nil, Bool.not_false]
    rw [List.filter_eq_self.mpr (fun _ _ => rfl : ∀ a ∈ pending, (fun _ => true) a = true)]
    exact filter_pending_map pending
  | cons r rs ih =>
    intro pending lo hi lo' hi' hr hp
    obtain ⟨_, r2, r3⟩ := hr
    have hrs := MSorted_starts_ge rs r.stop hi r3
    -- in front of the end of `r` only `r` can swallow, behind it `r` cannot
    have h1 : ((pending.takeWhile fun p => p.start < r.stop).filter fun p => !squashes r p) =
        (pending.takeWhile fun p => p.start < r.stop).filter fun p => !swallowed (r :: rs) p :=
      List.filter_congr fun p hp => by
        have hps := takeWhile_start_lt pending r.stop p hp
        rw [swallowed, List.any_cons, List.any_eq_false.mpr fun r' hr' => Bool.eq_false_iff.mp
          (squashes_eq_false r' p (Or.inl (Nat.lt_of_lt_of_le hps (hrs r' hr')))), Bool.or_false]
    have h2 : ((pending.dropWhile fun p => p.start < r.stop).filter fun p => !swallowed rs p) =
        (pending.dropWhile fun p => p.start < r.stop).filter fun p => !swallowed (r :: rs) p :=
      List.filter_congr fun p hp' => by
        rw [swallowed, swallowed, List.any_cons,
          squashes_eq_false r p (Or.inr (dropWhile_start_ge pending lo' hi' r.stop hp p hp')), Bool.false_or]
    simp only [mergePending, popPending_marker]
    rw [List.filter_append, List.filter_append, filter_pending_map,
      ih _ r.stop hi lo' hi' r3 (MSorted_sublist (List.dropWhile_sublist _) lo' hi' hp), h1, h2,
      show [(r, true)].filter (fun x => !x.2) = [] from rfl, List.append_nil, ← List.map_append,
      ← List.filter_append, List.takeWhile_append_dropWhile]

/-- item starts are non-decreasing and at least `b` -/
def StartsSorted : List (Marker × Bool) → Nat → Prop
  | [], _ => True
  | x :: xs, b => b ≤ x.1.start ∧ StartsSorted xs x.1.start

theorem StartsSorted_weaken (l : List (Marker × Bool)) (b b' : Nat) (h : StartsSorted l b) (hb : b' ≤ b) : StartsSorted l b' := by
  cases l with
  | nil => trivial
  | cons x xs => exact ⟨Nat.le_trans hb h.1, h.2⟩

theorem StartsSorted_append (a c : List (Marker × Bool)) (b b' : Nat) (ha : StartsSorted a b) (hc : StartsSorted c b')
    (hab : ∀ x ∈ a, x.1.start ≤ b') (hb : b ≤ b') : StartsSorted (a ++ c) b := by
  induction a generalizing b with
  | nil => exact StartsSorted_weaken c b' b hc hb
  | cons x xs ih =>
    exact ⟨ha.1, ih x.1.start ha.2 (fun y hy => hab y (List.mem_cons_of_mem _ hy)) (hab x List.mem_cons_self)⟩

theorem StartsSorted_of_MSorted (l : List Marker) (lo hi b : Nat) (h : MSorted l lo hi) (hb : ∀ p ∈ l, b ≤ p.start) :
    StartsSorted (l.map fun p => (p, false)) b := by
  induction l generalizing lo b with
  | nil => trivial
  | cons x xs ih =>
    obtain ⟨_, g2, g3⟩ := h
    exact ⟨hb x List.mem_cons_self, ih x.stop x.start g3 fun p hp =>
      Nat.le_trans (Nat.le_of_lt g2) (MSorted_starts_ge xs x.stop hi g3 p hp)⟩

/-- C17: items come in source order, provided pending and ready ranges are nested or disjoint
    (a pending range that is not swallowed and starts before a ready range ends starts no later than it) -/
theorem mergePending_sorted (ready : List Marker) : ∀ (pending : List Marker) (lo hi lo' hi' b : Nat),
    MSorted ready lo hi → MSorted pending lo' hi' → b ≤ lo → (∀ p ∈ pending, b ≤ p.start) →
    (∀ r ∈ ready, ∀ p ∈ pending, p.start < r.stop → squashes r p = false → p.start ≤ r.start) →
    StartsSorted (mergePending ready pending) b := by
  induction ready with
  | nil =>
    intro pending lo hi lo' hi' b _ hp _ hbp _
    exact StartsSorted_of_MSorted pending lo' hi' b hp hbp
  | cons r rs ih =>
    intro pending lo hi lo' hi' b hr hp hb hbp hlam
    obtain ⟨r1, r2, r3⟩ := hr
    have hT := List.takeWhile_sublist (l := pending) fun p => p.start < r.stop
    have hD := List.dropWhile_sublist (l := pending) fun p => p.start < r.stop
    simp only [mergePending, popPending_marker]
    rw [List.append_assoc]
    refine StartsSorted_append _ _ b r.start ?_ ⟨Nat.le_refl _, ?_⟩ ?_ (Nat.le_trans hb r1)
    · exact StartsSorted_of_MSorted _ lo' hi' b (MSorted_sublist (List.filter_sublist.trans hT) lo' hi' hp)
        fun p hp' => hbp p ((List.filter_sublist.trans hT).mem hp')
    · exact ih _ r.stop hi lo' hi' r.start r3 (MSorted_sublist hD lo' hi' hp) (Nat.le_of_lt r2)
        (fun p hp' => Nat.le_trans (Nat.le_of_lt r2) (dropWhile_start_ge pending lo' hi' r.stop hp p hp'))
        fun r' hr' p hp' => hlam r' (List.mem_cons_of_mem _ hr') p (hD.mem hp')
    · intro x hx
      obtain ⟨p, hp', rfl⟩ := List.mem_map.mp hx
      obtain ⟨h1, h2⟩ := List.mem_filter.mp hp'
      exact hlam r List.mem_cons_self p (hT.mem h1) (takeWhile_start_lt pending r.stop p h1) (by simpa using h2)

end Chiritori
