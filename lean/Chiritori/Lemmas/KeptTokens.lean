import Chiritori.Lemmas.PruneBytes
import Chiritori.Lemmas.C14Full
import Chiritori.Lemmas.ListTotal
/-
  Token chains and deletion of whole tokens: the text after removal is the concatenation of the surviving tokens,
  and every seam position is an offset at which a surviving token begins or ends.
-/
namespace Chiritori
open Spec

def keepTok (X : List Rng) (t : Token) : Bool := !inAny X t.bstart

def Wholly (X : List Rng) (ts : List Token) : Prop :=
  ∀ t ∈ ts, ∀ i, t.bstart ≤ i → i < t.bstop → inAny X i = inAny X t.bstart

theorem minusFrom_whole (X : List Rng) (a : Bytes) (off : Nat)
    (h : ∀ i, off ≤ i → i < off + a.length → inAny X i = inAny X off) :
    minusFrom a off X = if inAny X off then [] else a := by
  cases hk : inAny X off with
  | true => exact minusFrom_drop a off X (fun i h1 h2 => (h i h1 h2).trans hk)
  | false => exact minusFrom_keep a off X (fun i h1 h2 => (h i h1 h2).trans hk)

theorem koffTo_whole (X : List Rng) (b : Bytes) (n k : Nat) (hl : n + k ≤ b.length)
    (h : ∀ i, n ≤ i → i < n + k → inAny X i = inAny X n) :
    koffTo X b (n + k) = koffTo X b n + if inAny X n then 0 else k := by
  cases hk : inAny X n with
  | true => exact koffTo_drop X b n k (fun i h1 h2 => (h i h1 h2).trans hk)
  | false => exact koffTo_keep X b n k hl (fun i h1 h2 => (h i h1 h2).trans hk)

theorem minusFrom_tokens (X : List Rng) : ∀ (ts : List Token) (s off : Nat), ChainFrom ts s off → Wholly X ts →
    minusFrom (bytesOf (flat ts)) off X = bytesOf (flat (ts.filter (keepTok X))) := by
  intro ts
  induction ts with
  | nil => intro _ _ _ _; rfl
  | cons t ts ih =>
    intro s off hc hw
    obtain ⟨_, rfl, _, _, c5, c6⟩ := hc
    rw [flat_cons, bytesOf_append, minusFrom_append, bytesOf_length, ← c5,
      ih t.stop t.bstop c6 (fun u hu => hw u (List.mem_cons_of_mem _ hu)),
      minusFrom_whole X _ _ (fun i h1 h2 => hw t List.mem_cons_self i h1 (by rw [bytesOf_length, ← c5] at h2; exact h2)),
      List.filter_cons, keepTok]
    cases inAny X t.bstart <;> simp [bytesOf_append]

theorem koffTo_tokens (X : List Rng) (b : Bytes) : ∀ (ts : List Token) (s off : Nat), ChainFrom ts s off → Wholly X ts →
    off + blen (flat ts) ≤ b.length →
    koffTo X b (off + blen (flat ts)) = koffTo X b off + blen (flat (ts.filter (keepTok X))) := by
  intro ts
  induction ts with
  | nil => intro _ _ _ _ _; rfl
  | cons t ts ih =>
    intro s off hc hw hl
    obtain ⟨_, rfl, _, _, c5, c6⟩ := hc
    rw [flat_cons, blen_append, ← Nat.add_assoc, ← c5] at hl ⊢
    rw [ih t.stop t.bstop c6 (fun u hu => hw u (List.mem_cons_of_mem _ hu)) hl, c5,
      koffTo_whole X b t.bstart (blen t.value) (by omega) (fun i h1 h2 => hw t List.mem_cons_self i h1 (c5 ▸ h2)),
      List.filter_cons, keepTok]
    cases inAny X t.bstart <;> simp [blen_append, Nat.add_assoc]

theorem koffTo_token_start (X : List Rng) (pre post : List Token) (t : Token) (hc : ChainFrom (pre ++ t :: post) 0 0)
    (hw : Wholly X (pre ++ t :: post)) :
    koffTo X (bytesOf (flat (pre ++ t :: post))) t.bstart = blen (flat (pre.filter (keepTok X))) := by
  obtain ⟨hcpre, hct⟩ := (chainFrom_append pre (t :: post) 0 0).mp hc
  have htb : t.bstart = 0 + blen (flat pre) := hct.2.1
  have := koffTo_tokens X (bytesOf (flat (pre ++ t :: post))) pre 0 0 hcpre
    (fun u hu => hw u (List.mem_append_left _ hu)) (by rw [bytesOf_length, flat_append, blen_append]; omega)
  rwa [← htb, koffTo_zero, Nat.zero_add] at this

theorem chain_cover (ts : List Token) (s off : Nat) (hc : ChainFrom ts s off) (x : Nat) (h1 : off ≤ x)
    (h2 : x < off + blen (flat ts)) :
    ∃ pre t post, ts = pre ++ t :: post ∧ t.bstart ≤ x ∧ x < t.bstop ∧ t.bstart = off + blen (flat pre) := by
  obtain ⟨t, ht, e2, e3⟩ := BSpan_cover ts off _ x (BSpan_of_chain ts s off hc) h1 h2
  obtain ⟨pre, post, rfl⟩ := List.append_of_mem ht
  exact ⟨pre, t, post, rfl, e2, e3, ((chainFrom_append pre (t :: post) s off).mp hc).2.2.1⟩

def tokSegs (X : List Rng) (ts : List Token) : List Bytes := (ts.filter (keepTok X)).map fun t => bytesOf t.value

theorem tokSegs_append (X : List Rng) (a c : List Token) : tokSegs X (a ++ c) = tokSegs X a ++ tokSegs X c := by
  simp [tokSegs]

theorem tokSegs_flatten (X : List Rng) (ts : List Token) : (tokSegs X ts).flatten = bytesOf (flat (ts.filter (keepTok X))) := by
  unfold tokSegs
  induction ts.filter (keepTok X) with
  | nil => rfl
  | cons t rest ih => simp [flat_cons, bytesOf_append, ih]

theorem koffTo_covered (X : List Rng) (ts : List Token) (hc : ChainFrom ts 0 0) (hw : Wholly X ts) (x : Nat)
    (hx : x < blen (flat ts)) (hcov : inAny X x = true) :
    koffTo X (bytesOf (flat ts)) x = 0 ∨ koffTo X (bytesOf (flat ts)) x ∈ segEnds (tokSegs X ts) 0 := by
  obtain ⟨t, ht, e2, e3⟩ := BSpan_cover ts 0 _ x (BSpan_of_chain ts 0 0 hc) (Nat.zero_le _) (by omega)
  obtain ⟨pre, post, rfl⟩ := List.append_of_mem ht
  have hwt := hw t ht
  -- the token is covered, so the offset is that of its start
  have hk : inAny X t.bstart = true := (hwt x e2 e3).symm.trans hcov
  obtain ⟨d, rfl⟩ := Nat.exists_eq_add_of_le e2
  rw [koffTo_drop X _ t.bstart d (fun i hi1 hi2 => (hwt i hi1 (Nat.lt_trans hi2 e3)).trans hk),
    koffTo_token_start X pre post t hc hw]
  -- where the surviving tokens in front of it end
  by_cases hpre : pre.filter (keepTok X) = []
  · left; rw [hpre]; rfl
  · right
    have := segEnds_prefix (tokSegs X pre) (tokSegs X (t :: post)) 0 (by simpa [tokSegs] using hpre)
    rwa [tokSegs_flatten, bytesOf_length, Nat.zero_add, ← tokSegs_append] at this

end Chiritori
