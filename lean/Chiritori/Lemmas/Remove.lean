import Chiritori.Lemmas.Collect
/-
  The markers of a source, and what `remove` leaves.
-/
namespace Chiritori
open Spec

theorem parseSource_span (src ds de : List Char) (hde : de ≠ []) :
    BSpan (flattenParts (parseSource src ds de)) 0 (blen src) := by
  obtain ⟨hok, _⟩ := tokenize_ok src ds de hde
  have := BSpan_of_chain _ 0 0 hok.chain
  rw [hok.flatEq, Nat.zero_add] at this
  rw [show flattenParts (parseSource src ds de) = tokenize src ds de from parse_flatten ds de _]
  exact this

/-- The markers `clean` and `list` work with are sorted, disjoint, inside the source, and cover exactly the
    ready extents of the specification. -/
theorem buildRemoveMarker_spec (src ds de : List Char) (cfg : Cfg) (hde : de ≠ []) :
    MSorted (buildRemoveMarker cfg (bytesOf src) (parseSource src ds de)) 0 (blen src) ∧
    ∀ i, mcov (buildRemoveMarker cfg (bytesOf src) (parseSource src ds de)) i ↔
      inAny (extentsOfSource src ds de cfg) i = true := by
  have hspan := parseSource_span src ds de hde
  obtain ⟨hg, hc⟩ := collect_spec cfg (bytesOf src) (parseSource src ds de) 0 (blen src) hspan (by simp)
  obtain ⟨hs, hm⟩ := merge_spec.2 _ 0 (blen src) hg
  refine ⟨hs, fun i => ?_⟩
  unfold buildRemoveMarker extentsOfSource
  rw [hm i, hc i, readyExtents_eq]

/-- `b` without the bytes whose index (counted from `off`) lies in one of the ranges -/
def minusFrom (b : Bytes) (off : Nat) (rs : List Rng) : Bytes :=
  ((b.zipIdx off).filter fun x => !inAny rs x.2).map (·.1)

theorem minusRanges_eq_minusFrom (b : Bytes) (rs : List Rng) : minusRanges b rs = minusFrom b 0 rs := rfl

theorem minusFrom_cons (x : ABy) (xs : Bytes) (off : Nat) (rs : List Rng) :
    minusFrom (x :: xs) off rs = if inAny rs off then minusFrom xs (off + 1) rs else x :: minusFrom xs (off + 1) rs := by
  simp only [minusFrom, List.zipIdx_cons, List.filter_cons]
  cases inAny rs off <;> rfl

theorem minusFrom_append (a c : Bytes) (off : Nat) (rs : List Rng) :
    minusFrom (a ++ c) off rs = minusFrom a off rs ++ minusFrom c (off + a.length) rs := by
  simp [minusFrom, List.zipIdx_append]

theorem minusFrom_congr (a : Bytes) (off : Nat) (rs rs' : List Rng)
    (h : ∀ i, off ≤ i → i < off + a.length → inAny rs i = inAny rs' i) : minusFrom a off rs = minusFrom a off rs' := by
  unfold minusFrom
  rw [List.filter_congr fun x hx => by
    rw [h x.2 (List.le_snd_of_mem_zipIdx hx) (List.snd_lt_add_of_mem_zipIdx hx)]]

theorem minusFrom_keep (a : Bytes) (off : Nat) (rs : List Rng)
    (h : ∀ i, off ≤ i → i < off + a.length → inAny rs i = false) : minusFrom a off rs = a := by
  unfold minusFrom
  rw [List.filter_eq_self.mpr fun x hx => by
    rw [h x.2 (List.le_snd_of_mem_zipIdx hx) (List.snd_lt_add_of_mem_zipIdx hx)]; rfl]
  exact List.zipIdx_map_fst off a

theorem minusFrom_drop (a : Bytes) (off : Nat) (rs : List Rng)
    (h : ∀ i, off ≤ i → i < off + a.length → inAny rs i = true) : minusFrom a off rs = [] := by
  unfold minusFrom
  rw [List.filter_eq_nil_iff.mpr fun x hx => by
    rw [h x.2 (List.le_snd_of_mem_zipIdx hx) (List.snd_lt_add_of_mem_zipIdx hx)]; exact Bool.false_ne_true]
  rfl

theorem length_minusFrom_le (b : Bytes) (off : Nat) (rs : List Rng) : (minusFrom b off rs).length ≤ b.length := by
  unfold minusFrom
  rw [List.length_map]
  exact Nat.le_trans (List.length_filter_le _ _) (Nat.le_of_eq List.length_zipIdx)

theorem inAny_iff (rs : List Rng) (i : Nat) : inAny rs i = true ↔ ∃ r ∈ rs, r.1 ≤ i ∧ i < r.2 := by
  simp only [inAny, List.any_eq_true, Rng.contains_iff]

theorem inAny_cons (r : Rng) (rs : List Rng) (i : Nat) : inAny (r :: rs) i = (r.contains i || inAny rs i) := by
  simp [inAny]

/-- ranges sorted, disjoint, each `s ≤ e`, all at or after `lo` -/
def RSorted : List Rng → Nat → Prop
  | [], _ => True
  | r :: rs, lo => lo ≤ r.1 ∧ r.1 ≤ r.2 ∧ RSorted rs r.2

theorem RSorted_not_in_before (rs : List Rng) (lo i : Nat) (h : RSorted rs lo) (hi : i < lo) : inAny rs i = false := by
  induction rs generalizing lo with
  | nil => rfl
  | cons r rs ih =>
    obtain ⟨h1, h2, h3⟩ := h
    rw [inAny_cons, ih r.2 h3 (by omega), Bool.or_false]
    exact r.not_contains i (Or.inl (by omega))

theorem RSorted_of_MSorted (ms : List Marker) (lo hi : Nat) (h : MSorted ms lo hi) :
    RSorted (ms.map fun m => (m.start, m.stop)) lo := by
  induction ms generalizing lo with
  | nil => trivial
  | cons m ms ih =>
    obtain ⟨g1, g2, g3⟩ := h
    exact ⟨g1, Nat.le_of_lt g2, ih m.stop g3⟩

theorem inAny_cons_before (r : Rng) (rs : List Rng) (i : Nat) (hs : RSorted rs r.2) (hr : r.1 ≤ r.2) (hi : i < r.1) :
    inAny (r :: rs) i = false := by
  rw [inAny_cons, RSorted_not_in_before rs r.2 i hs (by omega), r.not_contains i (Or.inl hi)]
  rfl

theorem inAny_cons_inside (r : Rng) (rs : List Rng) (i : Nat) (h1 : r.1 ≤ i) (h2 : i < r.2) :
    inAny (r :: rs) i = true := by
  rw [inAny_cons, (r.contains_iff i).mpr ⟨h1, h2⟩, Bool.true_or]

theorem inAny_cons_after (r : Rng) (rs : List Rng) (i : Nat) (hi : r.2 ≤ i) : inAny (r :: rs) i = inAny rs i := by
  rw [inAny_cons, r.not_contains i (Or.inr hi), Bool.false_or]

theorem minusFrom_sorted_prefix (a c : Bytes) (off : Nat) (rs : List Rng) (hs : RSorted rs (off + a.length)) :
    minusFrom (a ++ c) off rs = a ++ minusFrom c (off + a.length) rs := by
  rw [minusFrom_append, minusFrom_keep a off rs fun i _ hi => RSorted_not_in_before rs _ i hs hi]

/-- the text around the first of a sorted list of ranges: what is in front of it stays, the range goes, and behind
    it only the later ranges matter -/
theorem minusFrom_cons_sorted (a m c : Bytes) (off : Nat) (r : Rng) (rs : List Rng)
    (h1 : r.1 = off + a.length) (h2 : r.2 = r.1 + m.length) (hs : RSorted rs r.2) :
    minusFrom (a ++ (m ++ c)) off (r :: rs) = a ++ minusFrom c r.2 rs := by
  rw [minusFrom_append, minusFrom_append, ← h1, ← h2,
    minusFrom_keep a off _ fun i _ hi => inAny_cons_before r rs i hs (h2 ▸ Nat.le_add_right _ _) (h1 ▸ hi),
    minusFrom_drop m r.1 _ fun i hi1 hi2 => inAny_cons_inside r rs i hi1 (h2 ▸ hi2),
    minusFrom_congr c r.2 _ rs fun i hi _ => inAny_cons_after r rs i hi, List.nil_append]

theorem minusFrom_take_drop (b : Bytes) (rs : List Rng) (lo : Nat) (hs : RSorted rs lo) :
    minusFrom b 0 rs = b.take lo ++ minusFrom (b.drop lo) lo rs := by
  rcases Nat.le_total lo b.length with h | h
  · have hl : 0 + (b.take lo).length = lo := by rw [List.length_take, Nat.min_eq_left h, Nat.zero_add]
    have := minusFrom_sorted_prefix (b.take lo) (b.drop lo) 0 rs (by rw [hl]; exact hs)
    rwa [List.take_append_drop, hl] at this
  · rw [List.take_of_length_le h, List.drop_of_length_le h,
      minusFrom_keep b 0 rs fun i _ hi => RSorted_not_in_before rs lo i hs (by omega)]
    exact (List.append_nil b).symm

theorem take_minusFrom (b : Bytes) (rs : List Rng) (lo p : Nat) (hs : RSorted rs lo) (hp : p ≤ lo) (hl : p ≤ b.length) :
    (minusFrom b 0 rs).take p = b.take p := by
  rw [minusFrom_take_drop b rs lo hs, List.take_append_of_le_length (by rw [List.length_take]; omega),
    List.take_take, Nat.min_eq_left hp]

theorem deleteAll_cons_ok_iff (content : Bytes) (r : Rng) (rs : List Rng) (c : Bytes) :
    deleteAll content (r :: rs) = .ok c ↔
      ∃ c1, deleteAll content rs = .ok c1 ∧ validRange c1 r.1 r.2 = true ∧ c = c1.take r.1 ++ c1.drop r.2 := by
  simp only [deleteAll]
  cases deleteAll content rs with
  | error e => simp
  | ok c1 =>
    simp only [deleteRange, Except.ok.injEq, exists_eq_left']
    by_cases hv : validRange c1 r.1 r.2 = true
    · simp only [hv, if_true, Except.ok.injEq, true_and]
      exact eq_comm
    · simp [hv]

theorem deleteAll_wellFormed (s : List Char) (rs : List Rng) (c : Bytes) (h : deleteAll (bytesOf s) rs = .ok c) :
    ∃ s', c = bytesOf s' := by
  induction rs generalizing c with
  | nil => exact ⟨s, (Except.ok.inj h).symm⟩
  | cons r rs ih =>
    obtain ⟨c1, hc1, hv, rfl⟩ := (deleteAll_cons_ok_iff _ r rs c).mp h
    obtain ⟨s1, rfl⟩ := ih c1 hc1
    obtain ⟨s', hs', _⟩ := deleteRange_wellFormed s1 r.1 r.2 _ (by rw [deleteRange, if_pos hv])
    exact ⟨s', hs'⟩

theorem exists_cut {α} (b : List α) (i j : Nat) (hij : i ≤ j) (hj : j ≤ b.length) :
    ∃ a m c, b = a ++ (m ++ c) ∧ a.length = i ∧ m.length = j - i := by
  refine ⟨b.take i, (b.drop i).take (j - i), (b.drop i).drop (j - i), ?_,
    List.length_take_of_le (Nat.le_trans hij hj), List.length_take_of_le ?_⟩
  · rw [List.take_append_drop, List.take_append_drop]
  · rw [List.length_drop]
    exact Nat.sub_le_sub_right hj i

theorem deleteAll_minus (content : Bytes) (rs : List Rng) (lo : Nat) (hs : RSorted rs lo) (c' : Bytes)
    (h : deleteAll content rs = .ok c') : c' = minusFrom content 0 rs := by
  induction rs generalizing lo c' with
  | nil => exact (Except.ok.inj h).symm.trans (minusFrom_keep _ _ _ fun _ _ _ => rfl).symm
  | cons r rs ih =>
    obtain ⟨_, h2, h3⟩ := hs
    obtain ⟨c1, hc1, hv, rfl⟩ := (deleteAll_cons_ok_iff _ r rs c').mp h
    obtain rfl := ih r.2 h3 c1 hc1
    obtain ⟨a, m, c, rfl, ha, hm⟩ := exists_cut content r.1 r.2 h2
      (Nat.le_trans ((validRange_iff _ _ _).mp hv).2.1 (length_minusFrom_le _ _ _))
    have hm' : r.2 = r.1 + m.length := by rw [hm, Nat.add_sub_cancel' h2]
    have hl : 0 + (a ++ m).length = r.2 := by rw [List.length_append, ha, Nat.zero_add, ← hm']
    rw [minusFrom_cons_sorted a m c 0 r rs (by rw [ha, Nat.zero_add]) hm' h3, ← List.append_assoc,
      minusFrom_sorted_prefix (a ++ m) c 0 rs (by rw [hl]; exact h3), hl, List.drop_left' ((Nat.zero_add _).symm.trans hl),
      List.append_assoc, List.take_left' ha]

theorem removeMarkers_eq (content : Bytes) (ms : List Marker) (lo hi : Nat) (hs : MSorted ms lo hi) (c' : Bytes)
    (h : removeMarkers content ms = .ok c') :
    c' = minusRanges content (ms.map fun m => (m.start, m.stop)) :=
  deleteAll_minus content _ lo (RSorted_of_MSorted ms lo hi hs) c' h

theorem inAny_markers (ms : List Marker) (i : Nat) :
    inAny (ms.map fun m => (m.start, m.stop)) i = true ↔ mcov ms i := by
  rw [inAny_iff, mcov]
  exact ⟨fun ⟨_, hr, h⟩ => by obtain ⟨m, hm, rfl⟩ := List.mem_map.mp hr; exact ⟨m, hm, h⟩,
    fun ⟨m, hm, h⟩ => ⟨_, List.mem_map_of_mem hm, h⟩⟩

theorem minusRanges_congr (b : Bytes) (rs rs' : List Rng) (h : ∀ i, inAny rs i = inAny rs' i) :
    minusRanges b rs = minusRanges b rs' :=
  minusFrom_congr b 0 rs rs' (fun i _ _ => h i)

/-- what `remove` leaves of a source is the source without the ready extents of the specification -/
theorem removeMarkers_source (src ds de : List Char) (cfg : Cfg) (hde : de ≠ []) (removed : Bytes)
    (h : removeMarkers (bytesOf src) (buildRemoveMarker cfg (bytesOf src) (parseSource src ds de)) = .ok removed) :
    removed = minusRanges (bytesOf src) (extentsOfSource src ds de cfg) := by
  obtain ⟨hs, hc⟩ := buildRemoveMarker_spec src ds de cfg hde
  rw [removeMarkers_eq _ _ 0 (blen src) hs removed h]
  apply minusRanges_congr
  intro i
  rw [Bool.eq_iff_iff, inAny_markers, hc i]

end Chiritori
