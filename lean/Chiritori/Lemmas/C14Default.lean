import Chiritori.Lemmas.Collect
import Chiritori.Lemmas.Totality
import Chiritori.Lemmas.Induction
/-
  Sources without a ready `unwrap-block`: the markers carry no pair, and the block formatter contributes nothing.
-/
namespace Chiritori
open Spec

mutual
def NoPairs : List RTree → Prop
  | [] => True
  | t :: ts => NoPairT t ∧ NoPairs ts
def NoPairT : RTree → Prop
  | .node _ pair ch => pair = none ∧ NoPairs ch
end

theorem NoPairs_append : ∀ (a b : List RTree), NoPairs a → NoPairs b → NoPairs (a ++ b)
  | [], _, _, hb => hb
  | t :: ts, b, ha, hb => by
    simp only [List.cons_append, NoPairs] at ha ⊢
    exact ⟨ha.1, NoPairs_append ts b ha.2 hb⟩

theorem mergeMarkers_nopair (ts : List RTree) (acc : List Marker) (h : NoPairs ts) (ha : ∀ m ∈ acc, m.pair = none) :
    ∀ m ∈ mergeMarkers ts acc, m.pair = none := by
  induction ts generalizing acc with
  | nil => simpa [mergeMarkers] using ha
  | cons t ts ih =>
    obtain ⟨r, pair, ch⟩ := t
    simp only [NoPairs, NoPairT] at h
    obtain ⟨⟨rfl, _⟩, hts⟩ := h
    -- a node without pair gives one marker without pair, whatever stands inside it
    simp only [mergeMarkers, mergeTree]
    apply ih _ hts
    intro m hm
    rcases List.mem_append.mp hm with hm | hm
    · exact ha m hm
    · rw [List.mem_singleton.mp hm]

/-- no element whose condition holds carries `unwrap-block` -/
def NoReadyUnwrap (cfg : Cfg) (parts : List Part) : Prop :=
  ∀ e ∈ elementsOf parts, conditionHolds cfg e.1 = true → hasAttr e.1 "unwrap-block" = false

theorem noReadyUnwrap_cons (cfg : Cfg) (p : Part) (ps : List Part) : NoReadyUnwrap cfg (p :: ps) ↔
    (∀ e ∈ elementsOfPart p, conditionHolds cfg e.1 = true → hasAttr e.1 "unwrap-block" = false) ∧
      NoReadyUnwrap cfg ps := by
  simp only [NoReadyUnwrap, elementsOf, List.forall_mem_append]

theorem noReadyUnwrap_element (cfg : Cfg) (el : Element) (st en : Token) (ch : List Part) :
    (∀ e ∈ elementsOfPart (.element el st en ch), conditionHolds cfg e.1 = true → hasAttr e.1 "unwrap-block" = false) ↔
      (conditionHolds cfg el = true → hasAttr el "unwrap-block" = false) ∧ NoReadyUnwrap cfg ch := by
  simp only [NoReadyUnwrap, elementsOfPart, List.forall_mem_cons]

theorem collect_nopairs_aux (cfg : Cfg) (b : Bytes) :
    (∀ (p : Part), (∀ e ∈ elementsOfPart p, conditionHolds cfg e.1 = true → hasAttr e.1 "unwrap-block" = false) →
      NoPairs (collectPart cfg b false p).1) ∧
    (∀ (parts : List Part), NoReadyUnwrap cfg parts → NoPairs (collect cfg b false parts).1) := by
  apply part_parts_induction
  · intro t _
    simp [collectPart, NoPairs]
  · intro el st en ch ih h
    obtain ⟨hself, hch⟩ := (noReadyUnwrap_element cfg el st en ch).mp h
    have ih := ih hch
    simp only [collectPart]
    rw [elementRange_eq cfg b false]
    cases hemp : (createRange b el st en).1.isEmpty with
    | true => simpa using ih
    | false =>
      cases hc : conditionHolds cfg el with
      | false => simpa using ih
      | true =>
        -- a ready element without `unwrap-block` gets a range without pair
        simp only [Bool.false_eq_true, ite_false, ite_true, NoPairs, NoPairT, and_true]
        refine ⟨?_, ih⟩
        unfold createRange
        rw [show (el.attrs.any fun a => a.name == "unwrap-block".toList) = hasAttr el "unwrap-block" from rfl, hself hc]
        rfl
  · intro _
    simp [collect, NoPairs]
  · intro p ps ihp ihps h
    obtain ⟨h1, h2⟩ := (noReadyUnwrap_cons cfg p ps).mp h
    simp only [collect]
    exact NoPairs_append _ _ (ihp h1) (ihps h2)

theorem collect_nopairs (cfg : Cfg) (b : Bytes) : ∀ (parts : List Part),
    (∀ e ∈ elementsOf parts, conditionHolds cfg e.1 = true → hasAttr e.1 "unwrap-block" = false) →
    NoPairs (collect cfg b false parts).1 :=
  (collect_nopairs_aux cfg b).2

theorem collectPart_nopairs (cfg : Cfg) (b : Bytes) : ∀ (p : Part),
    (∀ e ∈ elementsOfPart p, conditionHolds cfg e.1 = true → hasAttr e.1 "unwrap-block" = false) →
    NoPairs (collectPart cfg b false p).1 :=
  (collect_nopairs_aux cfg b).1

theorem formatCollect_noblocks (b : Bytes) (all : List (Nat × Option Nat)) : ∀ (ps : List (Nat × Option Nat))
    (rs bs : List Rng'), (∀ p ∈ ps, p.2 = none) → formatCollect b all ps = .ok (rs, bs) → bs = [] := by
  intro ps
  induction ps with
  | nil =>
    intro rs bs _ h
    simp only [formatCollect, Except.ok.injEq, Prod.mk.injEq] at h
    exact h.2.symm
  | cons p ps ih =>
    intro rs bs hp h
    obtain ⟨_, blk, rs', bs', _, hblk, hrest, _, rfl⟩ := (formatCollect_cons_ok _ _ _ _ _ _ _).mp h
    rw [hp p List.mem_cons_self] at hblk
    cases hblk
    exact ih rs' bs' (fun p' hp' => hp p' (List.mem_cons_of_mem _ hp')) hrest

end Chiritori
