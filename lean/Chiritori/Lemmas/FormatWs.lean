import Chiritori.Lemmas.WellFormed
import Chiritori.Lemmas.SeamExact
/-
  Every range the formatters return covers only spaces, tabs and line breaks.
-/
namespace Chiritori

def WsRange (b : Bytes) (s e : Nat) : Prop := ∀ i, s ≤ i → i < e → ∃ x, b[i]? = some x ∧ isWsByte x

theorem WsRange_empty (b : Bytes) (s : Nat) : WsRange b s s := by intro i h1 h2; omega

theorem WsRange_of_blank (b : Bytes) (s e : Nat)
    (h : ∀ i, s ≤ i → i < e → ∃ x, b[i]? = some x ∧ isBlankByte x) : WsRange b s e := by
  intro i h1 h2
  obtain ⟨x, hx, hb⟩ := h i h1 h2
  exact ⟨x, hx, by rcases hb with h | h <;> simp [isWsByte, h]⟩

theorem WsRange_join (b : Bytes) (s m e : Nat) (h1 : WsRange b s m) (h2 : WsRange b m e) : WsRange b s e := by
  intro i hi1 hi2
  by_cases h : i < m
  · exact h1 i hi1 h
  · exact h2 i (by omega) hi2

theorem WsRange_single_nl (b : Bytes) (p : Nat) (h : b[p]? = some (.lead '\n')) : WsRange b p (p + 1) := by
  intro i h1 h2
  have : i = p := by omega
  subst this
  exact ⟨_, h, by simp [isWsByte]⟩

theorem WsRange_sub (b : Bytes) (s e s' e' : Nat) (h : WsRange b s e) (h1 : s ≤ s') (h2 : e' ≤ e) : WsRange b s' e' := by
  intro i hi1 hi2; exact h i (by omega) (by omega)

theorem WsRange_of_skip (s : List Char) (a z : Nat) (hb : isBoundary (bytesOf s) a = true)
    (hrun : ∀ i, a ≤ i → i < z → ∃ x, (bytesOf s)[i]? = some x ∧ isSkipByte x) : WsRange (bytesOf s) a z :=
  WsRange_of_blank _ _ _ (skip_run_blank s a z hb hrun).1

theorem WsRange_two_lines (s : List Char) (a m z : Nat) (hb : isBoundary (bytesOf s) a = true)
    (h1 : ∀ i, a ≤ i → i < m → ∃ x, (bytesOf s)[i]? = some x ∧ isSkipByte x) (hm : (bytesOf s)[m]? = some NL)
    (h2 : ∀ i, m + 1 ≤ i → i < z → ∃ x, (bytesOf s)[i]? = some x ∧ isSkipByte x) : WsRange (bytesOf s) a z :=
  WsRange_join _ _ m _ (WsRange_of_skip s a m hb h1)
    (WsRange_join _ _ (m + 1) _ (WsRange_single_nl _ _ hm) (WsRange_of_skip s (m + 1) z (nl_next_boundary s m hm).1 h2))

/-- what every seam formatter returns around a boundary position `pos` -/
structure GoodRange (s : List Char) (pos : Nat) (r : Nat × Nat) : Prop where
  le1 : r.1 ≤ pos
  le2 : pos ≤ r.2
  len : r.2 ≤ blen s
  ws : WsRange (bytesOf s) r.1 r.2
  b1 : isBoundary (bytesOf s) r.1 = true
  b2 : isBoundary (bytesOf s) r.2 = true

theorem goodRange_empty (s : List Char) (pos : Nat) (hb : isBoundary (bytesOf s) pos = true) (hl : pos ≤ blen s) :
    GoodRange s pos (pos, pos) :=
  ⟨Nat.le_refl _, Nat.le_refl _, hl, WsRange_empty _ _, hb, hb⟩

theorem GoodRange.hull {s : List Char} {pos : Nat} {a c : Nat × Nat} (ga : GoodRange s pos a) (gc : GoodRange s pos c) :
    GoodRange s pos (min c.1 a.1, max c.2 a.2) := by
  obtain ⟨a1, a2, a3, a4, a5, a6⟩ := ga
  obtain ⟨c1, c2, c3, c4, c5, c6⟩ := gc
  refine ⟨Nat.le_trans (Nat.min_le_right _ _) a1, Nat.le_trans a2 (Nat.le_max_right _ _), Nat.max_le.mpr ⟨c3, a3⟩, ?_,
    prop_min (P := fun x => isBoundary (bytesOf s) x = true) c5 a5,
    prop_max (P := fun x => isBoundary (bytesOf s) x = true) c6 a6⟩
  -- a position of the hull that is not in `a` lies on the side of `pos` where `c` reaches further
  intro i hi1 hi2
  by_cases hia : a.1 ≤ i ∧ i < a.2
  · exact a4 i hia.1 hia.2
  · exact c4 i (by omega) (by omega)

theorem fmtIndent_good (s : List Char) (pos : Nat) (r : Nat × Nat) (hb : isBoundary (bytesOf s) pos = true)
    (hl : pos ≤ blen s) (h : fmtIndent (bytesOf s) pos = .ok r) : GoodRange s pos r := by
  obtain ⟨r1, r2⟩ := r
  obtain ⟨e, hle, hs⟩ := fmtIndent_inv h
  dsimp only at e hle hs
  subst e
  rcases hs with rfl | ⟨h0, hnl, hrun⟩
  · exact goodRange_empty s _ hb hl
  · have hnb := nl_next_boundary s (r1 - 1) hnl
    rw [show r1 - 1 + 1 = r1 by omega] at hnb
    exact ⟨hle, Nat.le_refl _, hl, WsRange_of_skip s r1 _ hnb.1 hrun, hnb.1, hb⟩

theorem fmtEmpty_good (s : List Char) (pos : Nat) (r : Nat × Nat)
    (h : fmtEmpty (bytesOf s) pos = .ok r) :
    isBoundary (bytesOf s) pos = true ∧ pos ≤ blen s ∧ GoodRange s pos r := by
  obtain ⟨r1, r2⟩ := r
  obtain ⟨hb, e, _, hr⟩ := fmtEmpty_inv h
  dsimp only at e hr
  subst e
  have hl : r1 ≤ blen s := by have := isBoundary_le _ _ hb; simpa using this
  refine ⟨hb, hl, ?_⟩
  rcases hr with rfl | ⟨rfl, hnl⟩
  · exact goodRange_empty s _ hb hl
  · have := nl_next_boundary s r1 hnl
    exact ⟨Nat.le_refl _, Nat.le_succ _, this.2, WsRange_single_nl _ _ hnl, hb, this.1⟩

theorem fmtPrev_good (s : List Char) (pos : Nat) (r : Nat × Nat) (hb : isBoundary (bytesOf s) pos = true)
    (hl : pos ≤ blen s) (h : fmtPrev (bytesOf s) pos = .ok r) : GoodRange s pos r := by
  obtain ⟨r1, r2⟩ := r
  obtain ⟨e, hle, hs⟩ := fmtPrev_inv h
  dsimp only at e hle hs
  subst e
  rcases hs with rfl | ⟨p1, h0, _, _, hnl, hnl1, hrun1, hrun2⟩
  · exact goodRange_empty s _ hb hl
  · have hnb := nl_next_boundary s (r1 - 1) hnl
    rw [show r1 - 1 + 1 = r1 by omega] at hnb
    exact ⟨hle, Nat.le_refl _, hl, WsRange_two_lines s r1 p1 _ hnb.1 hrun1 hnl1 hrun2, hnb.1, hb⟩

theorem fmtNext_good (s : List Char) (pos : Nat) (r : Nat × Nat) (hb : isBoundary (bytesOf s) pos = true)
    (hl : pos ≤ blen s) (h : fmtNext (bytesOf s) pos = .ok r) : GoodRange s pos r := by
  obtain ⟨r1, r2⟩ := r
  obtain ⟨e, hle, hs⟩ := fmtNext_inv h
  dsimp only at e hle hs
  subst e
  rcases hs with rfl | ⟨p1, _, _, hnl1, hnl2, hrun1, hrun2⟩
  · exact goodRange_empty s _ hb hl
  · exact ⟨Nat.le_refl _, hle, Nat.le_of_succ_le (nl_next_boundary s r2 hnl2).2,
      WsRange_two_lines s r1 p1 r2 hb hrun1 hnl1 hrun2, hb, isBoundary_of_lead _ r2 _ hnl2⟩

theorem formatBlock_good (s : List Char) (pos : Nat) (r : Nat × Nat)
    (h : formatBlock (bytesOf s) pos seamFormatters (pos, pos) = .ok r) :
    isBoundary (bytesOf s) pos = true ∧ GoodRange s pos r := by
  obtain ⟨r1, r2, r3, r4, h1, h2, h3, h4, rfl⟩ := (formatBlock_seam_ok _ _ _).mp h
  obtain ⟨hb, hl, g2⟩ := fmtEmpty_good s pos r2 h2
  exact ⟨hb, ((((goodRange_empty s pos hb hl).hull (fmtIndent_good s pos r1 hb hl h1)).hull g2).hull
    (fmtPrev_good s pos r3 hb hl h3)).hull (fmtNext_good s pos r4 hb hl h4)⟩

end Chiritori
