import Chiritori.Lemmas.Local
import Chiritori.Lemmas.PosCorr
/-
  The contexts of a token boundary in two texts made of corresponding tokens agree (`AgreeL`, `AgreeR`): the same
  texts around it, and where a tag begins or ends, a character that is not whitespace in both.
-/
namespace Chiritori
open Spec

/-- corresponding tokens, as far as the whitespace tidying can tell: equal texts, or two tags, each beginning and ending
    with a character that is not whitespace -/
def TokPair (t u : Token) : Prop :=
  (t.kind = .text ∧ u.kind = .text ∧ t.value = u.value) ∨
  (t.kind = .element ∧ u.kind = .element ∧ EdgeOK t.value ∧ EdgeOK u.value)

def TokPairs : List Token → List Token → Prop
  | [], [] => True
  | t :: ts, u :: us => TokPair t u ∧ TokPairs ts us
  | [], _ :: _ => False
  | _ :: _, [] => False

theorem tokPairs_iff (L L' : List Token) : TokPairs L L' ↔ PW TokPair L L' :=
  PW.of_unfold trivial (fun _ _ _ _ => Iff.rfl) (fun _ _ h => h) (fun _ _ h => h) L L'

/-! ### whitespace, then nothing or a stop

  `AgreeL` and `AgreeR` differ in the shape of the place where the whitespace ends (`StopsL`: a character that is not
  whitespace, read backwards, so behind its continuation bytes; `StopsR`: such a character at once); what follows is
  proved once, for a shape `S` that only looks at the beginning of a byte string. -/

def StopsL (x : Bytes) : Prop := ∃ cs s rest, x = cs ++ s :: rest ∧ (∀ z ∈ cs, z = .cont) ∧ isStopB s
def StopsR (x : Bytes) : Prop := ∃ s rest, x = s :: rest ∧ isStopB s

theorem stopsL_append (x z : Bytes) : StopsL x → StopsL (x ++ z)
  | ⟨cs, s, rest, e, hcs, hs⟩ => ⟨cs, s, rest ++ z, by rw [e, List.append_assoc]; rfl, hcs, hs⟩

theorem stopsR_append (x z : Bytes) : StopsR x → StopsR (x ++ z)
  | ⟨s, rest, e, hs⟩ => ⟨s, rest ++ z, by rw [e]; rfl, hs⟩

theorem isWsB_lead (c : Char) (h : wsChar c = true) : isWsB (.lead c) := by
  simp only [wsChar, Bool.or_eq_true, beq_iff_eq] at h
  rcases h with (h | h) | h
  · left; rw [h]
  · right; left; rw [h]
  · right; right; rw [h]

theorem isStopB_lead (c : Char) (h : wsChar c = false) : isStopB (.lead c) := by
  refine ⟨c, rfl, ?_, ?_, ?_⟩ <;> (intro hc; subst hc; revert h; decide)

theorem stopsR_charBytes (c : Char) (h : wsChar c = false) : StopsR (charBytes c) :=
  ⟨.lead c, _, rfl, isStopB_lead c h⟩

theorem stopsL_charBytes (c : Char) (h : wsChar c = false) : StopsL (charBytes c).reverse :=
  ⟨List.replicate (c.utf8Size - 1) .cont, .lead c, [], by rw [charBytes, List.reverse_cons, List.reverse_replicate],
    fun _ hz => (List.mem_replicate.mp hz).2, isStopB_lead c h⟩

theorem flatten_split_ws (S : Bytes → Prop) (hS : ∀ x z, S x → S (x ++ z)) (g : Char → Bytes)
    (hws : ∀ c, wsChar c = true → g c = [.lead c]) (hst : ∀ c, wsChar c = false → S (g c)) :
    ∀ (v : List Char), ∃ w rest, (v.map g).flatten = w ++ rest ∧ (∀ z ∈ w, isWsB z) ∧ (rest = [] ∨ S rest)
  | [] => ⟨[], [], rfl, nofun, Or.inl rfl⟩
  | c :: cs => by
    cases hc : wsChar c with
    | true =>
      obtain ⟨w, rest, e, hw, hr⟩ := flatten_split_ws S hS g hws hst cs
      refine ⟨.lead c :: w, rest, by rw [List.map_cons, List.flatten_cons, hws c hc, e]; rfl, ?_, hr⟩
      intro z hz
      rcases List.mem_cons.mp hz with rfl | hz
      · exact isWsB_lead c hc
      · exact hw z hz
    | false => exact ⟨[], _, rfl, nofun, Or.inr (hS _ _ (hst c hc))⟩

theorem bytesOf_eq_flatten : ∀ (v : List Char), bytesOf v = (v.map charBytes).flatten
  | [] => rfl
  | c :: cs => by rw [bytesOf, bytesOf_eq_flatten cs]; rfl

theorem bytesOf_split_ws (v : List Char) :
    ∃ w rest, bytesOf v = w ++ rest ∧ (∀ z ∈ w, isWsB z) ∧ (rest = [] ∨ StopsR rest) := by
  rw [bytesOf_eq_flatten]
  exact flatten_split_ws StopsR stopsR_append charBytes wsChar_size stopsR_charBytes v

theorem bytesOf_split_ws_rev (v : List Char) :
    ∃ w rest, (bytesOf v).reverse = w ++ rest ∧ (∀ z ∈ w, isWsB z) ∧ (rest = [] ∨ StopsL rest) := by
  have e : (bytesOf v).reverse = (v.reverse.map fun c => (charBytes c).reverse).flatten := by
    rw [bytesOf_eq_flatten, List.reverse_flatten, List.map_reverse, List.map_map]; rfl
  rw [e]
  exact flatten_split_ws StopsL stopsL_append _ (fun c hc => by rw [wsChar_size c hc]; rfl) stopsL_charBytes v.reverse

/-- the texts made of corresponding tokens, each token rendered by `g`: the same whitespace, then both end or both stop -/
theorem agree_toks (S : Bytes → Prop) (hS : ∀ x z, S x → S (x ++ z)) (g : List Char → Bytes)
    (hsplit : ∀ v, ∃ w rest, g v = w ++ rest ∧ (∀ z ∈ w, isWsB z) ∧ (rest = [] ∨ S rest))
    (hedge : ∀ v, EdgeOK v → S (g v)) {A A' : List Token} (h : PW TokPair A A') :
    ∃ w tx ty, (A.map fun t => g t.value).flatten = w ++ tx ∧ (A'.map fun t => g t.value).flatten = w ++ ty ∧
      (∀ z ∈ w, isWsB z) ∧ ((tx = [] ∧ ty = []) ∨ (S tx ∧ S ty)) := by
  induction h with
  | nil => exact ⟨[], [], [], rfl, rfl, nofun, Or.inl ⟨rfl, rfl⟩⟩
  | @cons t u ts us htu _ ih =>
    simp only [List.map_cons, List.flatten_cons]
    rcases htu with ⟨_, _, hv⟩ | ⟨_, _, et, eu⟩
    · rw [← hv]
      obtain ⟨w, rest, e, hw, hr⟩ := hsplit t.value
      rcases hr with rfl | hs
      · -- the whole text is whitespace: go on behind it
        obtain ⟨w2, tx, ty, e1, e2, hw2, ht⟩ := ih
        refine ⟨w ++ w2, tx, ty, by rw [e, e1, List.append_nil, List.append_assoc],
          by rw [e, e2, List.append_nil, List.append_assoc], ?_, ht⟩
        intro z hz
        exact (List.mem_append.mp hz).elim (hw z) (hw2 z)
      · exact ⟨w, _, _, by rw [e, List.append_assoc], by rw [e, List.append_assoc], hw, Or.inr ⟨hS _ _ hs, hS _ _ hs⟩⟩
    · exact ⟨[], _, _, rfl, rfl, nofun, Or.inr ⟨hS _ _ (hedge _ et), hS _ _ (hedge _ eu)⟩⟩

theorem agreeR_toks {A A' : List Token} (h : PW TokPair A A') : AgreeR (toksBytes A) (toksBytes A') :=
  agree_toks StopsR stopsR_append bytesOf bytesOf_split_ws
    (fun _ hv => by obtain ⟨⟨c0, r0, rfl, n0⟩, _⟩ := hv; exact ⟨.lead c0, _, rfl, isStopB_lead c0 n0⟩) h

/-- the bytes in front of a token boundary, read backwards, agree (`B`, `B'`: the tokens in front, nearest first) -/
theorem agreeL_toks {B B' : List Token} (h : PW TokPair B B') :
    AgreeL (toksBytes B.reverse).reverse (toksBytes B'.reverse).reverse := by
  have e : ∀ (B : List Token), (toksBytes B.reverse).reverse = (B.map fun t => (bytesOf t.value).reverse).flatten := by
    intro B
    rw [toksBytes, List.reverse_flatten, List.map_reverse, List.map_reverse, List.reverse_reverse, List.map_map]; rfl
  rw [e, e]
  refine agree_toks StopsL stopsL_append (fun v => (bytesOf v).reverse) bytesOf_split_ws_rev (fun _ hv => ?_) h
  obtain ⟨_, ⟨w1, c1, rfl, n1⟩⟩ := hv
  rw [bytesOf_append, List.reverse_append, show bytesOf [c1] = charBytes c1 from List.append_nil _]
  exact stopsL_append _ _ (stopsL_charBytes c1 n1)

theorem toksBytes_take_drop (L : List Token) (k : Nat) :
    (toksBytes L).take (bnd L k) = toksBytes (L.take k) ∧ (toksBytes L).drop (bnd L k) = toksBytes (L.drop k) := by
  have e : toksBytes L = toksBytes (L.take k) ++ toksBytes (L.drop k) := by rw [← toksBytes_append, List.take_append_drop]
  rw [e, ← toksBytes_length_take L k]
  exact ⟨List.take_left, List.drop_left⟩

/-- the two contexts of the boundary behind `k` tokens of `L`, in front of which the tokens `B` (nearest first) stand -/
theorem ctx_agree_from {L L' : List Token} (h : PW TokPair L L') : ∀ {B B' : List Token}, PW TokPair B B' → ∀ (k : Nat),
    AgreeL (toksBytes (B.reverse ++ L.take k)).reverse (toksBytes (B'.reverse ++ L'.take k)).reverse ∧
      AgreeR (toksBytes (L.drop k)) (toksBytes (L'.drop k)) := by
  induction h with
  | nil =>
    intro B B' hB k
    simp only [List.take_nil, List.drop_nil, List.append_nil]
    exact ⟨agreeL_toks hB, agreeR_toks .nil⟩
  | cons htu hts ih =>
    intro B B' hB k
    cases k with
    | zero =>
      simp only [List.take_zero, List.drop_zero, List.append_nil]
      exact ⟨agreeL_toks hB, agreeR_toks (.cons htu hts)⟩
    | succ k =>
      have := ih (.cons htu hB) k
      rwa [List.reverse_cons, List.reverse_cons, List.append_assoc, List.append_assoc] at this

theorem ctx_agree (L L' : List Token) (h : TokPairs L L') (k : Nat) :
    AgreeL (ctxL (toksBytes L) (bnd L k)) (ctxL (toksBytes L') (bnd L' k)) ∧
    AgreeR (ctxR (toksBytes L) (bnd L k)) (ctxR (toksBytes L') (bnd L' k)) := by
  unfold ctxL ctxR
  rw [(toksBytes_take_drop L k).1, (toksBytes_take_drop L k).2, (toksBytes_take_drop L' k).1, (toksBytes_take_drop L' k).2]
  exact ctx_agree_from ((tokPairs_iff L L').mp h) .nil k

end Chiritori
