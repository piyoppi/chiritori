import Chiritori.Lemmas.CoresKept
import Chiritori.Lemmas.Lines
/-
  C13 at document level: a text laid out as blocks of blank lines (gaps) and non-blank lines (cores);
  deleting whitespace that avoids the cores and whose maximal deleted runs start at line starts leaves every
  non-blank line byte for byte on a line of its own, with only whitespace between them.
-/
namespace Chiritori
open Spec

theorem linesT_flatten (b cur : Bytes) : (linesT b cur).flatten = cur ++ b := by
  induction b generalizing cur with
  | nil => cases cur <;> simp [linesT]
  | cons x xs ih =>
    simp only [linesT]
    split
    · simp [ih []]
    · simp [ih (cur ++ [x])]

/-- blocks of blank lines as gaps, non-blank lines as cores; the second component is the trailing gap -/
def lineLayout : List Bytes → Bytes → List (Bytes × Bytes) × Bytes
  | [], acc => ([], acc)
  | l :: ls, acc =>
    if isBlankLine l then lineLayout ls (acc ++ l)
    else ((acc, l) :: (lineLayout ls []).1, (lineLayout ls []).2)

theorem lineLayout_bytes (ls : List Bytes) (acc : Bytes) :
    layoutBytes (lineLayout ls acc).1 (lineLayout ls acc).2 = acc ++ ls.flatten := by
  induction ls generalizing acc with
  | nil => simp [lineLayout, layoutBytes]
  | cons l ls ih =>
    simp only [lineLayout]
    split
    · rw [ih (acc ++ l)]; simp
    · simp only [layoutBytes, ih [], List.nil_append, List.flatten_cons]

/-- the text with only whitespace between the cores, each core at the beginning of a line -/
inductive LL : List Bytes → Bytes → Prop
  | nil (g : Bytes) : (∀ x ∈ g, isWs x = true) → LL [] g
  | cons (g c rest : Bytes) (cs : List Bytes) : (∀ x ∈ g, isWs x = true) → (g = [] ∨ g.getLast? = some NL) →
      (c.getLast? = some NL ∨ (cs = [] ∧ rest = [])) →
      LL cs rest → LL (c :: cs) (g ++ (c ++ rest))

theorem minusFrom_snoc (g : Bytes) (x : ABy) (off : Nat) (F : List Rng) :
    minusFrom (g ++ [x]) off F = minusFrom g off F ++ (if inAny F (off + g.length) then [] else [x]) := by
  rw [minusFrom_append]
  congr 1
  simp only [minusFrom, List.zipIdx_cons, List.zipIdx_nil, List.filter_cons, List.filter_nil]
  split <;> simp_all

theorem minusFrom_ws (g : Bytes) (off : Nat) (F : List Rng) (h : ∀ x ∈ g, isWs x = true) :
    ∀ x ∈ minusFrom g off F, isWs x = true := by
  intro x hx
  simp only [minusFrom, List.mem_map, List.mem_filter] at hx
  obtain ⟨e, ⟨he, _⟩, rfl⟩ := hx
  exact h e.1 (List.fst_mem_of_mem_zipIdx he)

def IsLS (K : Bytes) (x : Nat) : Prop := x = 0 ∨ K[x - 1]? = some NL

theorem isLS_unique {K : Bytes} {a b e : Nat} (ha : IsLS K a) (hb : IsLS K b) (hae : a ≤ e) (hbe : b ≤ e)
    (hna : ∀ i, a ≤ i → i < e → K[i]? ≠ some NL) (hnb : ∀ i, b ≤ i → i < e → K[i]? ≠ some NL) : a = b := by
  -- the later of two different starts would have a line break in front of it
  have key : ∀ {a b : Nat}, IsLS K b → a < b → b ≤ e → ¬ ∀ i, a ≤ i → i < e → K[i]? ≠ some NL := fun {a b} hb hlt hbe hna =>
    hna (b - 1) (Nat.le_sub_one_of_lt hlt) (Nat.lt_of_lt_of_le (Nat.sub_one_lt (Nat.ne_of_gt (Nat.zero_lt_of_lt hlt))) hbe)
      (hb.resolve_left (Nat.ne_of_gt (Nat.zero_lt_of_lt hlt)))
  rcases Nat.lt_trichotomy a b with hlt | heq | hgt
  · exact absurd hna (key hb hlt hbe)
  · exact heq
  · exact absurd hnb (key ha hgt hae)

/-- every maximal deleted run starts at a line start -/
def RunsAtLS (F : List Rng) (K : Bytes) : Prop :=
  ∀ i, inAny F i = true → (i = 0 ∨ inAny F (i - 1) = false) → IsLS K i

/-- A gap that is empty or ends with a line break stays so.  By induction from the right: when the last byte of `g` is
    deleted the claim passes to the bytes before it, and a deleted byte behind a kept one starts a run of deleted bytes,
    hence a line - so the kept byte is a line break. -/
theorem gap_closed (F : List Rng) (K pre : Bytes) (off : Nat) (hpre : pre.length = off) (hF : RunsAtLS F K) :
    ∀ (n : Nat) (g post : Bytes), g.length = n → K = pre ++ (g ++ post) →
    (g = [] ∨ g.getLast? = some NL ∨ inAny F (off + g.length) = true) →
    minusFrom g off F = [] ∨ (minusFrom g off F).getLast? = some NL := by
  intro n
  induction n with
  | zero => intro g _ hn _ _; rw [List.eq_nil_of_length_eq_zero hn]; exact Or.inl rfl
  | succ n ih =>
    intro g post hn hK hg
    rcases List.eq_nil_or_concat g with h | ⟨g', x, h⟩
    · rw [h] at hn; cases hn
    rw [List.concat_eq_append] at h
    subst h
    rw [minusFrom_snoc]
    cases hx : inAny F (off + g'.length) with
    | true =>
      rw [if_pos rfl, List.append_nil]
      exact ih g' ([x] ++ post) (by simpa using hn) (by rw [hK]; simp) (Or.inr (Or.inr hx))
    | false =>
      rw [if_neg Bool.false_ne_true, List.getLast?_concat]
      refine Or.inr (congrArg some ?_)
      rcases hg with h | h | h
      · simp at h
      · simpa using h
      · have := (hF _ h (Or.inr (by simpa [Nat.add_assoc] using hx))).resolve_left (by simp)
        rw [hK, ← hpre] at this
        simpa [Nat.add_assoc] using this

/-- every core ends with a line break, except possibly the last one, behind which the text ends -/
def TermOK : List (Bytes × Bytes) → Bytes → Prop
  | [], _ => True
  | gc :: rest, tail => (gc.2.getLast? = some NL ∧ TermOK rest tail) ∨ (rest = [] ∧ tail = [])

theorem LL_of_layout (F : List Rng) (K : Bytes) (hF : RunsAtLS F K) : ∀ (L : List (Bytes × Bytes)) (tail pre : Bytes) (off : Nat),
    K = pre ++ layoutBytes L tail → pre.length = off → TermOK L tail →
    (∀ gc ∈ L, (∀ x ∈ gc.1, isWs x = true) ∧ (gc.1 = [] ∨ gc.1.getLast? = some NL)) →
    (∀ x ∈ tail, isWs x = true) → CoresKept F L off →
    LL (L.map (·.2)) (minusFrom (layoutBytes L tail) off F) := by
  intro L
  induction L with
  | nil =>
    intro tail _ off _ _ _ _ ht _
    simp only [layoutBytes, List.map_nil]
    exact .nil _ (minusFrom_ws tail off F ht)
  | cons gc rest ih =>
    obtain ⟨g, c⟩ := gc
    intro tail pre off hK hpre hterm hg ht hck
    obtain ⟨h1, h2⟩ := hck
    obtain ⟨g1, g2⟩ := hg (g, c) (by simp)
    simp only [layoutBytes, List.map_cons]
    rw [minusFrom_append, minusFrom_append, minusFrom_keep c _ F h1]
    have hterm' : TermOK rest tail := by
      rcases hterm with ⟨_, h⟩ | ⟨h, _⟩
      · exact h
      · subst h; trivial
    refine .cons _ c _ _ (minusFrom_ws g off F g1) ?_ ?_ ?_
    · exact gap_closed F K pre off hpre hF g.length g _ rfl (by rw [hK]; rfl) (g2.imp id Or.inl)
    · rcases hterm with ⟨h, _⟩ | ⟨h, h'⟩
      · exact Or.inl h
      · subst h; subst h'
        exact Or.inr ⟨rfl, by simp [layoutBytes, minusFrom]⟩
    · have := ih tail (pre ++ (g ++ c)) (off + g.length + c.length)
        (by rw [hK]; simp [layoutBytes]) (by simp [hpre]; omega) hterm' (fun gc hgc => hg gc (by simp [hgc])) ht h2
      simpa [Nat.add_assoc] using this

/-- a line: a body without line breaks, terminated by a line break - except possibly the last one -/
def LinesOK : List Bytes → Prop
  | [] => True
  | [l] => ∃ body, (∀ x ∈ body, x ≠ NL) ∧ (l = body ++ [NL] ∨ (l = body ∧ body ≠ []))
  | l :: l' :: rest => (∃ body, (∀ x ∈ body, x ≠ NL) ∧ l = body ++ [NL]) ∧ LinesOK (l' :: rest)

theorem linesOK_cons {l : Bytes} {ls : List Bytes} : LinesOK (l :: ls) ↔
    (∃ body, (∀ x ∈ body, x ≠ NL) ∧ (l = body ++ [NL] ∨ (l = body ∧ body ≠ [] ∧ ls = []))) ∧ LinesOK ls := by
  cases ls with
  | nil => simp only [LinesOK, and_true]
  | cons l' rest => simp only [LinesOK, reduceCtorEq, and_false, or_false]

theorem linesT_ok (b cur : Bytes) (h : ∀ x ∈ cur, x ≠ NL) : LinesOK (linesT b cur) := by
  induction b generalizing cur with
  | nil =>
    cases cur with
    | nil => trivial
    | cons c cs => exact ⟨c :: cs, h, Or.inr ⟨rfl, List.cons_ne_nil _ _⟩⟩
  | cons x xs ih =>
    simp only [linesT]
    split
    · rename_i hx
      exact linesOK_cons.mpr ⟨⟨cur, h, Or.inl (hx ▸ rfl)⟩, ih [] (fun _ hy => nomatch hy)⟩
    · rename_i hx
      exact ih (cur ++ [x]) fun y hy =>
        (List.mem_append.mp hy).elim (h y) fun hy => List.mem_singleton.mp hy ▸ hx

theorem lineLayout_blank {l : Bytes} (ls : List Bytes) (acc : Bytes) (h : isBlankLine l = true) :
    lineLayout (l :: ls) acc = lineLayout ls (acc ++ l) := by
  simp only [lineLayout, h, if_true]

theorem lineLayout_nonblank {l : Bytes} (ls : List Bytes) (acc : Bytes) (h : isBlankLine l = false) :
    lineLayout (l :: ls) acc = ((acc, l) :: (lineLayout ls []).1, (lineLayout ls []).2) := by
  simp only [lineLayout, h, Bool.false_eq_true, if_false]

theorem lineLayout_term (ls : List Bytes) (acc : Bytes) (h : LinesOK ls) :
    TermOK (lineLayout ls acc).1 (lineLayout ls acc).2 := by
  induction ls generalizing acc with
  | nil => trivial
  | cons l ls ih =>
    obtain ⟨⟨body, _, h2⟩, h3⟩ := linesOK_cons.mp h
    cases hb : isBlankLine l with
    | true => rw [lineLayout_blank ls acc hb]; exact ih _ h3
    | false =>
      rw [lineLayout_nonblank ls acc hb]
      rcases h2 with h2 | ⟨_, _, rfl⟩
      · exact Or.inl ⟨by rw [h2]; simp, ih [] h3⟩
      · exact Or.inr ⟨rfl, rfl⟩

/-- `F` avoids every non-blank line of `K`, its line break included -/
def AvoidsLines (F : List Rng) (K : Bytes) : Prop :=
  ∀ ls le x, IsLS K ls → ls ≤ x → x < le → le ≤ K.length → (∀ i, ls ≤ i → i < le → K[i]? ≠ some NL) →
    (K[le]? = some NL ∨ le = K.length) → (∃ y, K[x]? = some y ∧ isWs y = false) →
    ∀ d, ls ≤ d → d ≤ le → d < K.length → inAny F d = false

/-- `[ls, le)` is a line of `K`, its line break apart, and `x` a byte on it that is not whitespace -/
structure NonBlankLine (K : Bytes) (ls le x : Nat) : Prop where
  isLS : IsLS K ls
  le_x : ls ≤ x
  x_lt : x < le
  len : le ≤ K.length
  nonl : ∀ i, ls ≤ i → i < le → K[i]? ≠ some NL
  term : K[le]? = some NL ∨ le = K.length
  nonws : ∃ y, K[x]? = some y ∧ isWs y = false

theorem avoidsLines_iff {F : List Rng} {K : Bytes} : AvoidsLines F K ↔
    ∀ ls le x, NonBlankLine K ls le x → ∀ d, ls ≤ d → d ≤ le → d < K.length → inAny F d = false :=
  ⟨fun h ls le x l => h ls le x l.isLS l.le_x l.x_lt l.len l.nonl l.term l.nonws,
    fun h ls le x a1 a2 a3 a4 a5 a6 a7 => h ls le x ⟨a1, a2, a3, a4, a5, a6, a7⟩⟩

theorem isWs_NL : isWs NL = true := by decide

theorem exists_nonws_of_not_blank (l : Bytes) (h : isBlankLine l = false) :
    ∃ (k : Nat) (y : ABy), l[k]? = some y ∧ isWs y = false := by
  unfold isBlankLine at h
  rw [List.all_eq_false] at h
  obtain ⟨y, hy, hw⟩ := h
  obtain ⟨k, hk⟩ := List.mem_iff_getElem?.mp hy
  exact ⟨k, y, hk, by simpa using hw⟩

theorem lineLayout_gaps (ls : List Bytes) (acc : Bytes) (hok : LinesOK ls) (hw : ∀ x ∈ acc, isWs x = true)
    (hcl : acc = [] ∨ acc.getLast? = some NL) :
    (∀ gc ∈ (lineLayout ls acc).1, (∀ x ∈ gc.1, isWs x = true) ∧ (gc.1 = [] ∨ gc.1.getLast? = some NL)) ∧
    (∀ x ∈ (lineLayout ls acc).2, isWs x = true) := by
  induction ls generalizing acc with
  | nil => exact ⟨fun _ h => (nomatch h), hw⟩
  | cons l ls ih =>
    obtain ⟨⟨body, _, hshape⟩, hok'⟩ := linesOK_cons.mp hok
    cases hb : isBlankLine l with
    | true =>
      -- a blank line joins the gap
      rw [lineLayout_blank ls acc hb]
      have hwal : ∀ x ∈ acc ++ l, isWs x = true := fun x hx =>
        (List.mem_append.mp hx).elim (hw x) (List.all_eq_true.mp hb x)
      rcases hshape with h | ⟨_, _, rfl⟩
      · exact ih _ hok' hwal (Or.inr (by rw [h]; simp))
      · exact ⟨fun _ h => (nomatch h), hwal⟩
    | false =>
      rw [lineLayout_nonblank ls acc hb]
      obtain ⟨i1, i2⟩ := ih [] hok' (fun _ h => nomatch h) (Or.inl rfl)
      exact ⟨fun gc hgc => (List.mem_cons.mp hgc).elim (fun e => e ▸ ⟨hw, hcl⟩) (i1 gc), i2⟩

theorem getElem?_line_end (pre body post : Bytes) (x : ABy) :
    (pre ++ (body ++ [x] ++ post))[pre.length + body.length]? = some x := by
  rw [List.getElem?_append_right (Nat.le_add_right _ _), Nat.add_sub_cancel_left, List.append_assoc,
    List.getElem?_append_right (Nat.le_refl _), Nat.sub_self]
  rfl

theorem line_kept {F : List Rng} {K : Bytes} (hA : AvoidsLines F K) {pre l post body : Bytes}
    (hK : K = pre ++ (l ++ post)) (hls : IsLS K pre.length) (hbody : ∀ x ∈ body, x ≠ NL)
    (hshape : l = body ++ [NL] ∨ (l = body ∧ post = [])) (hnb : isBlankLine l = false) (d : Nat)
    (hd1 : pre.length ≤ d) (hd2 : d < pre.length + l.length) : inAny F d = false := by
  obtain ⟨tl, rfl, htl⟩ : ∃ tl, l = body ++ tl ∧ (tl = [NL] ∨ (tl = [] ∧ post = [])) :=
    hshape.elim (fun h => ⟨[NL], h, Or.inl rfl⟩) fun h => ⟨[], by simpa using h.1, Or.inr ⟨rfl, h.2⟩⟩
  have hKb : ∀ i, i < body.length → K[pre.length + i]? = body[i]? := fun i hi => by
    rw [hK, List.getElem?_append_right (Nat.le_add_right _ _), Nat.add_sub_cancel_left, List.append_assoc,
      List.getElem?_append_left hi]
  have hKlen : K.length = pre.length + (body.length + tl.length + post.length) := by
    rw [hK]; simp only [List.length_append]
  -- the byte of the line that is not whitespace stands in its body
  have hnb' : isBlankLine body = false := by
    rcases htl with rfl | ⟨rfl, _⟩
    · simpa only [isBlankLine, List.all_append, List.all_cons, List.all_nil, isWs_NL, Bool.and_true] using hnb
    · rwa [List.append_nil] at hnb
  obtain ⟨k, y, hky, hyw⟩ := exists_nonws_of_not_blank _ hnb'
  have hk : k < body.length := lt_of_getElem?_some _ _ _ hky
  refine avoidsLines_iff.mp hA pre.length (pre.length + body.length) (pre.length + k)
    ⟨hls, Nat.le_add_right _ _, by omega, by omega, fun i hi1 hi2 hnl => ?_, ?_, y, (hKb k hk).trans hky, hyw⟩
    d hd1 ?_ (by simp at hd2; omega)
  · have := hKb (i - pre.length) (by omega)
    rw [show pre.length + (i - pre.length) = i by omega, hnl] at this
    exact hbody NL (List.mem_of_getElem? this.symm) rfl
  · rcases htl with rfl | ⟨rfl, rfl⟩
    · exact Or.inl (hK ▸ getElem?_line_end pre body post NL)
    · right; simp at hKlen; omega
  · rcases htl with rfl | ⟨rfl, _⟩ <;> simp at hd2 <;> omega

theorem lineLayout_kept {F : List Rng} {K : Bytes} (hA : AvoidsLines F K) : ∀ (ls : List Bytes) (acc pre : Bytes) (off : Nat),
    K = pre ++ (acc ++ ls.flatten) → pre.length = off → LinesOK ls → IsLS K (off + acc.length) →
    CoresKept F (lineLayout ls acc).1 off
    := by
  intro ls
  induction ls with
  | nil => intros; trivial
  | cons l ls ih =>
    intro acc pre off hK hpre hok hls
    obtain ⟨⟨body, hbody, hshape⟩, hok'⟩ := linesOK_cons.mp hok
    have hK' : K = (pre ++ acc) ++ (l ++ ls.flatten) := by rw [hK]; simp
    have hlen : (pre ++ acc).length = off + acc.length := by simp [hpre]
    have hnext : l = body ++ [NL] → IsLS K (off + acc.length + l.length) := fun h => by
      right
      rw [hK', ← hlen, h, show (pre ++ acc).length + (body ++ [NL]).length - 1 = (pre ++ acc).length + body.length by simp]
      exact getElem?_line_end _ body _ NL
    cases hb : isBlankLine l with
    | true =>
      rw [lineLayout_blank ls acc hb]
      rcases hshape with h | ⟨_, _, rfl⟩
      · exact ih (acc ++ l) pre off (by rw [hK]; simp) hpre hok'
          (by simpa [Nat.add_assoc] using hnext h)
      · trivial
    | false =>
      rw [lineLayout_nonblank ls acc hb]
      refine ⟨fun d hd1 hd2 => line_kept hA hK' (hlen ▸ hls) hbody
        (hshape.imp id fun h => ⟨h.1, by rw [h.2.2]; rfl⟩) hb d (hlen ▸ hd1) (hlen ▸ hd2), ?_⟩
      rcases hshape with h | ⟨_, _, rfl⟩
      · exact ih [] (pre ++ (acc ++ l)) (off + acc.length + l.length) (by rw [hK]; simp)
          (by simp [hpre]; omega) hok' (by simpa using hnext h)
      · trivial

theorem lineLayout_facts (F : List Rng) (K : Bytes) (hA : AvoidsLines F K) : ∀ (ls : List Bytes) (acc pre : Bytes) (off : Nat),
    K = pre ++ (acc ++ ls.flatten) → pre.length = off → LinesOK ls → IsLS K (off + acc.length) →
    (∀ x ∈ acc, isWs x = true) → (acc = [] ∨ acc.getLast? = some NL) →
    (∀ gc ∈ (lineLayout ls acc).1, (∀ x ∈ gc.1, isWs x = true) ∧ (gc.1 = [] ∨ gc.1.getLast? = some NL)) ∧
    (∀ x ∈ (lineLayout ls acc).2, isWs x = true) ∧ CoresKept F (lineLayout ls acc).1 off :=
  fun ls acc pre off hK hpre hok hls hw hcl =>
    ⟨(lineLayout_gaps ls acc hok hw hcl).1, (lineLayout_gaps ls acc hok hw hcl).2,
      lineLayout_kept hA ls acc pre off hK hpre hok hls⟩

theorem LL_lines (F : List Rng) (K : Bytes) (hA : AvoidsLines F K) (hR : RunsAtLS F K) :
    LL ((lineLayout (linesT K []) []).1.map (·.2)) (minusFrom K 0 F) := by
  have hok := linesT_ok K [] (by simp)
  obtain ⟨f1, f2, f3⟩ := lineLayout_facts F K hA (linesT K []) [] [] 0 (by rw [linesT_flatten]; rfl) rfl hok
    (Or.inl rfl) (by simp) (Or.inl rfl)
  have := LL_of_layout F K hR _ _ [] 0 (by rw [lineLayout_bytes, linesT_flatten]; rfl) rfl
    (lineLayout_term _ [] hok) f1 f2 f3
  rwa [lineLayout_bytes, linesT_flatten] at this

theorem linesT_body (body : Bytes) (h : ∀ x ∈ body, x ≠ NL) : ∀ (cur : Bytes),
    linesT (body ++ [NL]) cur = [cur ++ body ++ [NL]] ∧ (cur ++ body ≠ [] → linesT body cur = [cur ++ body]) := by
  induction body with
  | nil =>
    intro cur
    constructor
    · simp [linesT]
    · intro hne
      cases cur with
      | nil => simp at hne
      | cons c cs => simp [linesT]
  | cons x xs ih =>
    intro cur
    have hx : x ≠ NL := h x (by simp)
    have ih' := ih (fun y hy => h y (by simp [hy])) (cur ++ [x])
    constructor
    · simp only [List.cons_append, linesT, if_neg hx]
      rw [ih'.1]; simp
    · intro _
      simp only [linesT, if_neg hx]
      rw [ih'.2 (by simp)]; simp

theorem linesT_cons (x : ABy) (xs cur : Bytes) :
    linesT (x :: xs) cur = if x = NL then (cur ++ [x]) :: linesT xs [] else linesT xs (cur ++ [x]) := by
  simp only [linesT]

theorem linesT_append_closed (a b cur : Bytes) (h : a.getLast? = some NL) :
    linesT (a ++ b) cur = linesT a cur ++ linesT b [] := by
  induction a generalizing cur with
  | nil => cases h
  | cons x rest ih =>
    cases rest with
    | nil =>
      simp only [List.getLast?_singleton, Option.some.injEq] at h
      subst h
      simp [linesT]
    | cons y rest =>
      have h' : (y :: rest).getLast? = some NL := by simpa using h
      rw [List.cons_append, linesT_cons, linesT_cons x (y :: rest) cur]
      split
      · rw [ih [] h']
        simp
      · rw [ih _ h']

theorem linesT_ws (a cur : Bytes) (ha : ∀ x ∈ a, isWs x = true) (hc : ∀ x ∈ cur, isWs x = true) :
    ∀ l ∈ linesT a cur, isBlankLine l = true := by
  induction a generalizing cur with
  | nil =>
    intro l hl
    cases cur with
    | nil => cases hl
    | cons c cs =>
      cases List.mem_singleton.mp hl
      exact List.all_eq_true.mpr hc
  | cons x xs ih =>
    intro l hl
    have hxs : ∀ y ∈ xs, isWs y = true := fun y hy => ha y (List.mem_cons_of_mem _ hy)
    have hcx : ∀ y ∈ cur ++ [x], isWs y = true := fun y hy =>
      (List.mem_append.mp hy).elim (hc y) fun hy => List.mem_singleton.mp hy ▸ ha x List.mem_cons_self
    simp only [linesT] at hl
    split at hl
    · rcases List.mem_cons.mp hl with rfl | hl
      · exact List.all_eq_true.mpr hcx
      · exact ih [] hxs (fun _ h => nomatch h) l hl
    · exact ih _ hxs hcx l hl

def SingleLine (c : Bytes) : Prop := ∃ body, (∀ x ∈ body, x ≠ NL) ∧ (c = body ++ [NL] ∨ c = body)

theorem filter_blank_nil (ls : List Bytes) (h : ∀ l ∈ ls, isBlankLine l = true) : ls.filter nbl = [] := by
  rw [List.filter_eq_nil_iff]
  intro l hl
  simp [nbl, h l hl]

theorem lines_of_LL : ∀ (cs : List Bytes) (out : Bytes), LL cs out →
    (∀ c ∈ cs, SingleLine c ∧ isBlankLine c = false) → (linesT out []).filter nbl = cs := by
  intro cs out h
  induction h with
  | nil g hg => exact fun _ => filter_blank_nil _ (linesT_ws g [] hg (fun _ h => nomatch h))
  | cons g c rest cs hg hcl hterm _ ih =>
    intro hc
    obtain ⟨⟨body, hbody, hshape⟩, hnb⟩ := hc c List.mem_cons_self
    -- the gap contributes only blank lines
    have hgap : linesT (g ++ (c ++ rest)) [] = linesT g [] ++ linesT (c ++ rest) [] := by
      rcases hcl with rfl | hcl
      · rfl
      · exact linesT_append_closed g _ [] hcl
    have hl : linesT c [] = [c] := by
      rcases hshape with h | h
      · rw [h, (linesT_body body hbody []).1]; rfl
      · subst h
        have hne : [] ++ c ≠ [] := fun e => by rw [show c = [] from e] at hnb; cases hnb
        rw [(linesT_body c hbody []).2 hne]; rfl
    -- the core is a line of its own: it ends with a line break, or the text ends with it
    have hcore : linesT (c ++ rest) [] = c :: linesT rest [] := by
      rcases hterm with hterm | ⟨_, rfl⟩
      · rw [linesT_append_closed c rest [] hterm, hl]; rfl
      · rw [List.append_nil, hl]; rfl
    rw [hgap, List.filter_append, filter_blank_nil _ (linesT_ws g [] hg (fun _ h => nomatch h)), List.nil_append, hcore,
      List.filter_cons, show nbl c = true by simp [nbl, hnb], if_pos rfl,
      ih fun c' hc' => hc c' (List.mem_cons_of_mem _ hc')]

theorem lineLayout_cores (ls : List Bytes) (acc : Bytes) : (lineLayout ls acc).1.map (·.2) = ls.filter nbl := by
  induction ls generalizing acc with
  | nil => rfl
  | cons l ls ih =>
    cases h : isBlankLine l with
    | true => rw [lineLayout_blank ls acc h, ih, List.filter_cons, show nbl l = false by simp [nbl, h]]; rfl
    | false => rw [lineLayout_nonblank ls acc h, List.map_cons, ih, List.filter_cons, show nbl l = true by simp [nbl, h]]; rfl

theorem linesOK_single (ls : List Bytes) (h : LinesOK ls) : ∀ l ∈ ls, SingleLine l := by
  induction ls with
  | nil => exact fun _ hl => nomatch hl
  | cons l0 rest ih =>
    obtain ⟨⟨body, h1, h2⟩, h3⟩ := linesOK_cons.mp h
    intro l hl
    rcases List.mem_cons.mp hl with rfl | hl
    · exact ⟨body, h1, h2.imp id And.left⟩
    · exact ih h3 l hl

end Chiritori
