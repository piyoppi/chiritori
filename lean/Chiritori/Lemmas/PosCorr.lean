import Chiritori.Lemmas.MergeMono
import Chiritori.Lemmas.RespellLines
/-
  Corresponding positions in two texts made of corresponding token lists (the same texts, tags of possibly different
  lengths): a position corresponds to one in the other text if both stand at the same token boundary, or at the same
  offset inside the same text token.  The correspondence preserves the order (`rho_mono`).
-/
namespace Chiritori
open Spec

def bnd (L : List Token) (m : Nat) : Nat := blen (flat (L.take m))

theorem bnd_zero (L : List Token) : bnd L 0 = 0 := rfl

theorem bnd_succ (L : List Token) (m : Nat) (h : m < L.length) : bnd L (m + 1) = bnd L m + blen L[m].value := by
  unfold bnd
  rw [List.take_add_one, List.getElem?_eq_getElem h, Option.toList_some, flat_append, blen_append, flat_cons, flat_nil,
    List.append_nil]

theorem bnd_mono (L : List Token) : ∀ (m n : Nat), m ≤ n → bnd L m ≤ bnd L n := by
  intro m n h
  unfold bnd
  obtain ⟨d, rfl⟩ := Nat.exists_eq_add_of_le h
  rw [List.take_add, flat_append, blen_append]
  omega

def NonEmptyToks (L : List Token) : Prop := ∀ t ∈ L, 0 < blen t.value

theorem bnd_strict (L : List Token) (hne : NonEmptyToks L) (m n : Nat) (h : m < n) (hn : n ≤ L.length) :
    bnd L m < bnd L n := by
  have hm : m < L.length := Nat.lt_of_lt_of_le h hn
  have := bnd_succ L m hm
  have hpos := hne L[m] (List.getElem_mem hm)
  have := bnd_mono L (m + 1) n h
  omega

def Rho (L L' : List Token) (x x' : Nat) : Prop :=
  ∃ m j, m ≤ L.length ∧ x = bnd L m + j ∧ x' = bnd L' m + j ∧
    (j = 0 ∨ ∃ t, L[m]? = some t ∧ t.kind = .text ∧ j ≤ blen t.value)

/-- corresponding token lists: the same length, text tokens of the same size -/
def SameTexts (L L' : List Token) : Prop :=
  L.length = L'.length ∧ ∀ (m : Nat) (t u : Token), L[m]? = some t → L'[m]? = some u → t.kind = .text → blen t.value = blen u.value

theorem bnd_succ_text (L L' : List Token) (hs : SameTexts L L') (m : Nat) (h : m < L.length) (ht : L[m].kind = .text) :
    bnd L' (m + 1) = bnd L' m + blen L[m].value := by
  have h' : m < L'.length := hs.1 ▸ h
  rw [bnd_succ L' m h', hs.2 m _ _ (List.getElem?_eq_getElem h) (List.getElem?_eq_getElem h') ht]

theorem rho_within (L L' : List Token) (hne : NonEmptyToks L) (hne' : NonEmptyToks L') (hs : SameTexts L L') (m j : Nat)
    (hj : j = 0 ∨ ∃ t, L[m]? = some t ∧ t.kind = .text ∧ j ≤ blen t.value) :
    bnd L m + j ≤ bnd L (m + 1) ∧ bnd L' m + j ≤ bnd L' (m + 1) ∧
      (bnd L (m + 1) ≤ bnd L m + j ↔ bnd L' (m + 1) ≤ bnd L' m + j) := by
  rcases hj with rfl | ⟨t, ht, htk, hjt⟩
  · refine ⟨bnd_mono L _ _ (Nat.le_succ m), bnd_mono L' _ _ (Nat.le_succ m), ?_⟩
    by_cases h : m < L.length
    · have s1 := bnd_strict L hne m (m + 1) (Nat.lt_succ_self m) h
      have s2 := bnd_strict L' hne' m (m + 1) (Nat.lt_succ_self m) (hs.1 ▸ h)
      omega
    · have past : ∀ (A : List Token), A.length ≤ m → bnd A (m + 1) = bnd A m := fun A hA => by
        unfold bnd; rw [List.take_of_length_le hA, List.take_of_length_le (Nat.le_succ_of_le hA)]
      rw [past L (Nat.le_of_not_lt h), past L' (hs.1 ▸ Nat.le_of_not_lt h)]
      exact iff_of_true (Nat.le_refl _) (Nat.le_refl _)
  · have h : m < L.length := lt_of_getElem?_some _ _ _ ht
    obtain rfl : L[m] = t := by rw [List.getElem?_eq_getElem h] at ht; exact Option.some.inj ht
    rw [bnd_succ L m h, bnd_succ_text L L' hs m h htk]
    omega

theorem bnd_le_back (L : List Token) (hne : NonEmptyToks L) (m n j i : Nat) (hnm : n < m) (hm : m ≤ L.length)
    (hi : bnd L n + i ≤ bnd L (n + 1)) :
    bnd L m + j ≤ bnd L n + i ↔ m = n + 1 ∧ j = 0 ∧ bnd L (n + 1) ≤ bnd L n + i := by
  constructor
  · intro h
    have hm1 : m = n + 1 := by
      apply Nat.le_antisymm _ hnm
      apply Nat.le_of_not_lt
      intro hlt
      have := bnd_strict L hne (n + 1) m hlt hm
      omega
    subst hm1
    omega
  · rintro ⟨rfl, rfl, h⟩
    exact h

theorem rho_mono (L L' : List Token) (hne : NonEmptyToks L) (hne' : NonEmptyToks L') (hs : SameTexts L L') :
    MonoRel (Rho L L') := by
  intro x x' y y' hx hy
  obtain ⟨m, j, hm, rfl, rfl, hj⟩ := hx
  obtain ⟨n, i, _, rfl, rfl, hi⟩ := hy
  rcases Nat.lt_trichotomy m n with hlt | rfl | hgt
  · obtain ⟨w1, w2, _⟩ := rho_within L L' hne hne' hs m j hj
    exact iff_of_true (Nat.le_trans w1 (Nat.le_trans (bnd_mono L _ _ hlt) (Nat.le_add_right _ _)))
      (Nat.le_trans w2 (Nat.le_trans (bnd_mono L' _ _ hlt) (Nat.le_add_right _ _)))
  · rw [Nat.add_le_add_iff_left, Nat.add_le_add_iff_left]
  · obtain ⟨w1, w2, w3⟩ := rho_within L L' hne hne' hs n i hi
    rw [bnd_le_back L hne m n j i hgt hm w1, bnd_le_back L' hne' m n j i hgt (hs.1 ▸ hm) w2, w3]

def toksBytes (L : List Token) : Bytes := (L.map fun t => bytesOf t.value).flatten

theorem toksBytes_cons (t : Token) (L : List Token) : toksBytes (t :: L) = bytesOf t.value ++ toksBytes L := rfl

theorem toksBytes_append (A B : List Token) : toksBytes (A ++ B) = toksBytes A ++ toksBytes B := by
  simp [toksBytes]

theorem toksBytes_length (L : List Token) : (toksBytes L).length = blen (flat L) := by
  induction L with
  | nil => rfl
  | cons t rest ih => rw [toksBytes_cons, List.length_append, ih, bytesOf_length, flat_cons, blen_append]

theorem toksBytes_length_take (L : List Token) (m : Nat) : (toksBytes (L.take m)).length = bnd L m :=
  toksBytes_length _

theorem bnd_length (L : List Token) : bnd L L.length = (toksBytes L).length := by
  rw [← toksBytes_length_take, List.take_length]

theorem toksBytes_at (L : List Token) (m j : Nat) (h : m < L.length) (hj : j < blen L[m].value) :
    (toksBytes L)[bnd L m + j]? = (bytesOf L[m].value)[j]? := by
  have e : toksBytes L = toksBytes (L.take m) ++ (bytesOf L[m].value ++ toksBytes (L.drop (m + 1))) := by
    conv => lhs; rw [← List.take_append_drop m L, List.drop_eq_getElem_cons h]
    rw [toksBytes_append, toksBytes_cons]
  rw [e, List.getElem?_append_right (by rw [toksBytes_length_take]; exact Nat.le_add_right _ _),
    toksBytes_length_take, Nat.add_sub_cancel_left, List.getElem?_append_left (by rw [bytesOf_length]; exact hj)]

/-- tags begin and end with a byte that is not whitespace -/
def TagEdges (L : List Token) : Prop :=
  ∀ t ∈ L, t.kind = .element →
    (∃ y, (bytesOf t.value)[0]? = some y ∧ isWs y = false) ∧
    (∃ y, (bytesOf t.value)[blen t.value - 1]? = some y ∧ isWs y = false)

def KindsBin (L : List Token) : Prop := ∀ t ∈ L, t.kind = .text ∨ t.kind = .element

theorem kindsBin (L : List Token) : KindsBin L := fun t _ =>
  match t.kind with
  | .text => .inl rfl
  | .element => .inr rfl

theorem text_of_ws_edge (L : List Token) (he : TagEdges L) (k : Nat) (h : k < L.length) (j : Nat)
    (hj : j = 0 ∨ j = blen L[k].value - 1) (hz : 0 < blen L[k].value)
    (hw : ∃ y, (toksBytes L)[bnd L k + j]? = some y ∧ isWs y = true) : L[k].kind = .text := by
  cases hk : L[k].kind with
  | text => rfl
  | element =>
    obtain ⟨⟨y0, hy0, hw0⟩, ⟨y1, hy1, hw1⟩⟩ := he L[k] (List.getElem_mem h) hk
    obtain ⟨y, hy, hyw⟩ := hw
    rw [toksBytes_at L k j h (by omega)] at hy
    rcases hj with rfl | rfl
    · rw [hy0] at hy; cases hy; rw [hw0] at hyw; cases hyw
    · rw [hy1] at hy; cases hy; rw [hw1] at hyw; cases hyw

theorem add_sub_eq_sub_sub {b s c : Nat} (h : s ≤ c) : b + s - c = b - (c - s) := by
  obtain ⟨e, rfl⟩ := Nat.exists_eq_add_of_le h
  rw [Nat.add_sub_cancel_left, Nat.sub_add_eq, Nat.add_sub_cancel]

theorem rho_left (L L' : List Token) (hne : NonEmptyToks L) (hs : SameTexts L L') (he : TagEdges L) (hk : KindsBin L) :
    ∀ (k d : Nat), k ≤ L.length → d ≤ bnd L k →
    (∀ i, bnd L k - d ≤ i → i < bnd L k → ∃ y, (toksBytes L)[i]? = some y ∧ isWs y = true) →
    Rho L L' (bnd L k - d) (bnd L' k - d) ∧ d ≤ bnd L' k := by
  have at_boundary : ∀ k, k ≤ L.length → Rho L L' (bnd L k - 0) (bnd L' k - 0) ∧ 0 ≤ bnd L' k :=
    fun k hkl => ⟨⟨k, 0, hkl, rfl, rfl, Or.inl rfl⟩, Nat.zero_le _⟩
  intro k
  induction k with
  | zero =>
    intro d hkl hd _
    obtain rfl : d = 0 := Nat.le_zero.mp hd
    exact at_boundary 0 hkl
  | succ k ih =>
    intro d hkl hd hw
    cases d with
    | zero => exact at_boundary (k + 1) hkl
    | succ d =>
      have hlt : k < L.length := hkl
      have hz := hne L[k] (List.getElem_mem hlt)
      rw [bnd_succ L k hlt] at hd hw ⊢
      -- the last byte of the token in front of the boundary is whitespace, so it is a text token
      have htext : L[k].kind = .text :=
        text_of_ws_edge L he k hlt _ (Or.inr rfl) hz (hw _ (by omega) (by omega))
      rw [bnd_succ_text L L' hs k hlt htext]
      by_cases hdz : d + 1 ≤ blen L[k].value
      · -- the position lies inside that token
        rw [Nat.add_sub_assoc hdz, Nat.add_sub_assoc hdz]
        exact ⟨⟨k, _, Nat.le_of_lt hlt, rfl, rfl, Or.inr ⟨_, List.getElem?_eq_getElem hlt, htext, Nat.sub_le _ _⟩⟩,
          Nat.le_trans hdz (Nat.le_add_left _ _)⟩
      · -- it lies in front of that token: go on from the boundary in front of it
        have hsd : blen L[k].value ≤ d + 1 := Nat.le_of_not_le hdz
        rw [add_sub_eq_sub_sub hsd] at hw ⊢
        rw [add_sub_eq_sub_sub hsd]
        obtain ⟨ih, ihb⟩ := ih (d + 1 - blen L[k].value) (Nat.le_of_lt hlt)
          (Nat.sub_le_iff_le_add.mpr hd) (fun i hi1 hi2 => hw i hi1 (Nat.lt_add_right _ hi2))
        exact ⟨ih, Nat.sub_le_iff_le_add.mp ihb⟩

theorem add_add_sub_eq {b s c : Nat} (h : s ≤ c) : b + s + (c - s) = b + c := by
  rw [Nat.add_assoc, Nat.add_sub_of_le h]

theorem rho_right (L L' : List Token) (hne : NonEmptyToks L) (hs : SameTexts L L') (he : TagEdges L) (hk : KindsBin L) :
    ∀ (n k d : Nat), L.length - k = n → k ≤ L.length → bnd L k + d ≤ bnd L L.length →
    (∀ i, bnd L k ≤ i → i < bnd L k + d → ∃ y, (toksBytes L)[i]? = some y ∧ isWs y = true) →
    Rho L L' (bnd L k + d) (bnd L' k + d) := by
  have at_boundary : ∀ k, k ≤ L.length → Rho L L' (bnd L k + 0) (bnd L' k + 0) :=
    fun k hkl => ⟨k, 0, hkl, rfl, rfl, Or.inl rfl⟩
  intro n
  induction n with
  | zero =>
    intro k d hn hkl hd _
    obtain rfl : k = L.length := Nat.le_antisymm hkl (Nat.le_of_sub_eq_zero hn)
    obtain rfl : d = 0 := by omega
    exact at_boundary _ hkl
  | succ n ih =>
    intro k d hn hkl hd hw
    cases d with
    | zero => exact at_boundary k hkl
    | succ d =>
      have hlt : k < L.length := by omega
      have hz := hne L[k] (List.getElem_mem hlt)
      -- the first byte of the token behind the boundary is whitespace, so it is a text token
      have htext : L[k].kind = .text :=
        text_of_ws_edge L he k hlt 0 (Or.inl rfl) hz (hw _ (Nat.le_refl _) (Nat.lt_add_of_pos_right (Nat.succ_pos d)))
      by_cases hdz : d + 1 ≤ blen L[k].value
      · exact ⟨k, d + 1, hkl, rfl, rfl, Or.inr ⟨_, List.getElem?_eq_getElem hlt, htext, hdz⟩⟩
      · -- the position lies behind that token: go on from the boundary behind it
        have hsd : blen L[k].value ≤ d + 1 := Nat.le_of_not_le hdz
        have hb := bnd_succ L k hlt
        have ih := ih (k + 1) (d + 1 - blen L[k].value) (by omega) hlt
          (by rw [hb, add_add_sub_eq hsd]; exact hd)
          (fun i hi1 hi2 => hw i (by rw [hb] at hi1; exact Nat.le_trans (Nat.le_add_right _ _) hi1)
            (by rw [hb, add_add_sub_eq hsd] at hi2; exact hi2))
        rw [hb, bnd_succ_text L L' hs k hlt htext, add_add_sub_eq hsd, add_add_sub_eq hsd] at ih
        exact ih

end Chiritori
