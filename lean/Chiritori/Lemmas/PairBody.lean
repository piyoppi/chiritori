import Chiritori.Lemmas.MarkerProps
/-
  What a pair index means: a marker whose pair points forward is the opening part of an unwrapped element, the
  marker it points to is the closing part, and between them lies (part of) that element's body.
-/
namespace Chiritori

mutual
/-- the bodies `(end of opening part, start of closing part)` of the unwrap nodes of a forest -/
def bodiesOf : List RTree → List Rng
  | [] => []
  | t :: ts => bodiesOfT t ++ bodiesOf ts
def bodiesOfT : RTree → List Rng
  | .node r pair ch => (match pair with | some t => [(r.2, t.1)] | none => []) ++ bodiesOf ch
end

def PairBody (B : List Rng) (ms : List Marker) : Prop :=
  ∀ (i j : Nat) (mi mj : Marker), ms[i]? = some mi → mi.pair = some j → i < j → ms[j]? = some mj →
    ∃ body ∈ B, body.1 ≤ mi.stop ∧ mj.start ≤ body.2

theorem PairBody_mono (B B' : List Rng) (ms : List Marker) (h : PairBody B ms) (hs : ∀ x ∈ B, x ∈ B') : PairBody B' ms := by
  intro i j mi mj h1 h2 h3 h4
  obtain ⟨body, hb, g⟩ := h i j mi mj h1 h2 h3 h4
  exact ⟨body, hs body hb, g⟩

theorem getElem?_append3_head (a : List Marker) (x : Marker) (mid : List Marker) (z : Marker) :
    (a ++ [x] ++ mid ++ [z])[a.length]? = some x := by
  rw [List.append_assoc, List.append_assoc, List.getElem?_append_right (Nat.le_refl _), Nat.sub_self]
  rfl

theorem PairBody_single_none (B : List Rng) (s e : Nat) : PairBody B [⟨s, e, none⟩] := by
  intro i j mi mj h1 h2
  cases i with
  | zero => cases h1; cases h2
  | succ i => cases h1

theorem PairBody_append_shift (B : List Rng) (acc l : List Marker) (hpv : PV acc acc.length) (ha : PairBody B acc)
    (hl : PairBody B l) : PairBody B (acc ++ l.map (shift acc.length)) := by
  intro i j mi mj h1 h2 h3 h4
  rw [List.getElem?_append] at h1 h4
  by_cases hi : i < acc.length
  · rw [if_pos hi] at h1
    rw [if_pos (hpv mi (List.mem_of_getElem? h1) j h2)] at h4
    exact ha i j mi mj h1 h2 h3 h4
  · rw [if_neg hi, List.getElem?_map] at h1
    obtain ⟨m, hm, rfl⟩ := Option.map_eq_some_iff.mp h1
    obtain ⟨p, hp, rfl⟩ := Option.map_eq_some_iff.mp h2
    rw [if_neg (Nat.not_lt.mpr (Nat.le_add_left _ _)), List.getElem?_map, Nat.add_sub_cancel] at h4
    obtain ⟨m', hm', rfl⟩ := Option.map_eq_some_iff.mp h4
    exact hl (i - acc.length) p m m' hm hp (Nat.sub_lt_right_of_lt_add (Nat.le_of_not_lt hi) h3) hm'

/-- the paired shape of an unwrap node: the opening part points at the closing part, with the element's body
    between them; a pair among the re-based middle markers `M` was a pair among the children's markers -/
theorem PairBody_unwrap (Bd : List Rng) (A M B : List Marker) (s E T e2 : Nat) (body : Rng) (hb : body ∈ Bd)
    (hE : body.1 ≤ E) (hT : T ≤ body.2) (hc : PairBody Bd (A ++ (M ++ B))) :
    PairBody Bd ([⟨s, E, some (0 + M.length + 1)⟩] ++ M.map (rebase A.length (A.length + M.length) 0)
      ++ [⟨T, e2, some 0⟩]) := by
  intro i j mi mj h1 h2 h3 h4
  rw [List.append_assoc, List.singleton_append] at h1 h4
  cases i with
  | zero =>
    cases h1
    cases h2
    rw [Nat.zero_add, List.getElem?_cons_succ, List.getElem?_append_right (by rw [List.length_map]; exact Nat.le_refl _),
      List.length_map, Nat.sub_self] at h4
    cases h4
    exact ⟨body, hb, hE, hT⟩
  | succ i =>
    rw [List.getElem?_cons_succ, List.getElem?_append, List.length_map] at h1
    by_cases hi : i < M.length
    · rw [if_pos hi, List.getElem?_map] at h1
      obtain ⟨m0, hm0, rfl⟩ := Option.map_eq_some_iff.mp h1
      obtain ⟨p, hp, hp1, hp2, rfl⟩ := rebase_pair _ _ _ m0 j h2
      have hpM : p - A.length < M.length := Nat.sub_lt_left_of_lt_add hp1 hp2
      rw [Nat.add_zero, List.getElem?_cons_succ, List.getElem?_append_left (by rw [List.length_map]; exact hpM),
        List.getElem?_map] at h4
      obtain ⟨m1, hm1, rfl⟩ := Option.map_eq_some_iff.mp h4
      refine hc (A.length + i) p m0 m1 ?_ hp (Nat.add_lt_of_lt_sub' (Nat.lt_of_succ_lt_succ h3)) ?_
      · rw [List.getElem?_append_right (Nat.le_add_right _ _), Nat.add_sub_cancel_left, List.getElem?_append_left hi]
        exact hm0
      · rw [List.getElem?_append_right hp1, List.getElem?_append_left hpM]
        exact hm1
    · rw [if_neg hi] at h1
      cases List.mem_singleton.mp (List.mem_of_getElem? h1)
      cases h2
      exact absurd h3 (Nat.not_lt_zero _)

theorem merge_pairBody :
    (∀ t lo hi, RTreeGeo t lo hi → PairBody (bodiesOfT t) (mergeTree t [])) ∧
    (∀ ts lo hi, RGeo ts lo hi → PairBody (bodiesOf ts) (mergeMarkers ts [])) := by
  apply rtree_rtrees_induction
  · intro r pair ch ih lo hi hg
    cases pair with
    | none =>
      rw [mergeTree_default_eq, List.nil_append]
      exact PairBody_single_none _ _ _
    | some t =>
      obtain ⟨_, _, _, g4, _, a, b, ga, gb1, _, gb3, gch⟩ := hg
      obtain ⟨A, M, B, E, T, hA, e1, _, t1, _, _, _, hT⟩ :=
        mergeTree_unwrap r t ch a b (merge_spec.2 ch a b gch).1 (Nat.le_of_lt ga) gb1 gb3 g4
      rw [hT [], List.nil_append, List.length_nil]
      split
      · exact PairBody_single_none _ _ _
      · refine PairBody_unwrap _ A M B _ _ _ _ (r.2, t.1) List.mem_cons_self e1 t1 ?_
        rw [← hA]
        exact PairBody_mono _ _ _ (ih a b gch) fun x hx => List.mem_cons_of_mem _ hx
  · intro _ _ _ i j mi mj h1; cases h1
  · intro t ts iht ihts lo hi hg
    obtain ⟨mid, ht, hts⟩ := hg
    simp only [mergeMarkers, bodiesOf]
    rw [mergeMarkers_acc]
    exact PairBody_append_shift _ _ _ (mergeTree_PV_nil t)
      (PairBody_mono _ _ _ (iht lo mid ht) fun x hx => List.mem_append_left _ hx)
      (PairBody_mono _ _ _ (ihts mid hi hts) fun x hx => List.mem_append_right _ hx)

theorem mergeMarkers_pairBody : ∀ (ts : List RTree) (lo hi : Nat) (acc : List Marker) (B : List Rng),
    RGeo ts lo hi → PV acc acc.length → PairBody B acc → (∀ x ∈ bodiesOf ts, x ∈ B) →
    PairBody B (mergeMarkers ts acc) := by
  intro ts lo hi acc B hg hpv ha hb
  rw [mergeMarkers_acc]
  exact PairBody_append_shift B acc _ hpv ha (PairBody_mono _ _ _ (merge_pairBody.2 ts lo hi hg) hb)

theorem mergeTree_pairBody : ∀ (t : RTree) (lo hi : Nat) (acc : List Marker) (B : List Rng),
    RTreeGeo t lo hi → PV acc acc.length → PairBody B acc → (∀ x ∈ bodiesOfT t, x ∈ B) →
    PairBody B (mergeTree t acc) := by
  intro t lo hi acc B hg hpv ha hb
  rw [mergeTree_acc]
  exact PairBody_append_shift B acc _ hpv ha (PairBody_mono _ _ _ (merge_pairBody.1 t lo hi hg) hb)

end Chiritori
