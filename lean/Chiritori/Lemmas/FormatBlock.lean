import Chiritori.Lemmas.FormatWs
/-
  The block indent remover, and the collection loop of `format`.
-/
namespace Chiritori

structure RangeOK (s : List Char) (r : Nat × Nat) : Prop where
  le : r.1 ≤ r.2
  len : r.2 ≤ blen s
  ws : WsRange (bytesOf s) r.1 r.2
  b1 : isBoundary (bytesOf s) r.1 = true
  b2 : isBoundary (bytesOf s) r.2 = true

theorem GoodRange.ok {s : List Char} {pos : Nat} {r : Nat × Nat} (g : GoodRange s pos r) : RangeOK s r :=
  ⟨Nat.le_trans g.le1 g.le2, g.len, g.ws, g.b1, g.b2⟩

/-- one round of the loop of `BlockIndentRemover`: the line at `cur` ends with a line break `lb` before `endPos`; it
    yields the range of its own indentation, if that is not empty, and the loop goes on behind `lb` -/
theorem mem_blockLoop_succ (b : Bytes) (endPos t s fuel cur : Nat) (r : Rng') :
    r ∈ blockLoop b endPos t s (fuel + 1) cur ↔
      ∃ lb, cur < endPos ∧ findNextLB b cur false = some lb ∧ lb + 1 ≤ endPos ∧
        ((∃ ip, findNextChar b cur = some ip ∧ r = (min (cur + t) ip, min (min (cur + t) ip + s) ip) ∧ r.1 ≠ r.2) ∨
         r ∈ blockLoop b endPos t s fuel (lb + 1)) := by
  rw [blockLoop]
  constructor
  · intro hr
    by_cases hc : endPos > cur
    · rw [if_pos hc] at hr
      cases hlb : findNextLB b cur false with
      | none => rw [hlb] at hr; cases hr
      | some lb =>
        rw [hlb] at hr
        simp only at hr
        by_cases he : lb + 1 > endPos
        · rw [if_pos he] at hr; cases hr
        · rw [if_neg he] at hr
          refine ⟨lb, hc, rfl, by omega, ?_⟩
          rcases List.mem_append.mp hr with h | h
          · cases hip : findNextChar b cur with
            | none => rw [hip] at h; cases h
            | some ip =>
              rw [hip] at h
              simp only at h
              by_cases hne : min (cur + t) ip ≠ min (min (cur + t) ip + s) ip
              · rw [if_pos hne, List.mem_singleton] at h
                exact Or.inl ⟨ip, rfl, h, by rw [h]; exact hne⟩
              · rw [if_neg hne] at h; cases h
          · exact Or.inr h
    · rw [if_neg hc] at hr; cases hr
  · rintro ⟨lb, hc, hlb, he, h⟩
    rw [if_pos hc, hlb]
    simp only
    rw [if_neg (by omega)]
    rcases h with ⟨ip, hip, rfl, hne⟩ | h
    · rw [hip]
      exact List.mem_append_left _ (by simp only; rw [if_pos hne]; exact List.mem_singleton_self _)
    · exact List.mem_append_right _ h

/-- where a range of the loop comes from: a line that starts at `ls` - at `cur`, or behind a later line break - and ends
    with the line break `lb` before `endPos`; the range is cut out of its indentation `[ls, ip)` -/
theorem mem_blockLoop (b : Bytes) (endPos t s : Nat) (r : Rng') : ∀ (fuel cur : Nat),
    r ∈ blockLoop b endPos t s fuel cur →
    ∃ ls lb ip, cur ≤ ls ∧ (ls = cur ∨ (0 < ls ∧ b[ls - 1]? = some NL)) ∧ ls < endPos ∧
      findNextLB b ls false = some lb ∧ lb + 1 ≤ endPos ∧ findNextChar b ls = some ip ∧
      r = (min (ls + t) ip, min (min (ls + t) ip + s) ip) ∧ r.1 ≠ r.2 := by
  intro fuel
  induction fuel with
  | zero => intro _ hr; cases hr
  | succ fuel ih =>
    intro cur hr
    obtain ⟨lb, hc, hlb, he, ⟨ip, hip, hr, hne⟩ | h⟩ := (mem_blockLoop_succ _ _ _ _ _ _ _).mp hr
    · exact ⟨cur, lb, ip, Nat.le_refl _, Or.inl rfl, hc, hlb, he, hip, hr, hne⟩
    · obtain ⟨_, l1, _, l3, _⟩ := findNextLB_some _ cur lb false hlb
      obtain ⟨ls, lb', ip, h1, h2, h⟩ := ih (lb + 1) h
      refine ⟨ls, lb', ip, by omega, Or.inr ?_, h⟩
      rcases h2 with rfl | h2
      · exact ⟨Nat.succ_pos lb, l3⟩
      · exact h2

/-- the loop of `BlockIndentRemover` starts behind the first line break at or behind the seam -/
theorem mem_fmtBlockIndent {b : Bytes} {startPos endPos : Nat} {r : Rng'} (h : r ∈ fmtBlockIndent b startPos endPos) :
    ∃ t s cur, startPos < cur ∧ b[cur - 1]? = some NL ∧ r ∈ blockLoop b endPos t s (b.length + 1) cur := by
  unfold fmtBlockIndent at h
  dsimp only at h
  split at h
  · cases h
  · rename_i ofs hf
    obtain ⟨hlt, hx, _⟩ := List.findIdx?_eq_some_iff_getElem.mp hf
    refine ⟨_, _, startPos + ofs + 1, by omega, ?_, h⟩
    rw [Nat.add_sub_cancel, ← List.getElem?_drop, List.getElem?_eq_getElem hlt, beq_iff_eq.mp hx]

/-- every range of `BlockIndentRemover` lies in the blanks `[ls, ip)` at the beginning of a line that starts, behind a
    line break, strictly between the two seams -/
theorem fmtBlockIndent_line (b : Bytes) (startPos endPos : Nat) (r : Nat × Nat)
    (h : r ∈ fmtBlockIndent b startPos endPos) :
    ∃ ls ip, startPos < ls ∧ ls < endPos ∧ b[ls - 1]? = some NL ∧ findNextChar b ls = some ip ∧
      ls ≤ r.1 ∧ r.1 ≤ r.2 ∧ r.2 ≤ ip := by
  obtain ⟨t, s, cur, h0, hnl, h⟩ := mem_fmtBlockIndent h
  obtain ⟨ls, _, ip, h1, h2, h3, _, _, hip, rfl, _⟩ := mem_blockLoop b endPos t s r _ cur h
  exact ⟨ls, ip, Nat.lt_of_lt_of_le h0 h1, h3, h2.elim (fun e => e ▸ hnl) And.right, hip,
    Nat.le_min.mpr ⟨Nat.le_add_right _ _, (findNextChar_some b ls ip hip).2.1⟩,
    Nat.le_min.mpr ⟨Nat.le_add_right _ _, Nat.min_le_right _ _⟩, Nat.min_le_right _ _⟩

theorem fmtBlockIndent_anchor (b : Bytes) (startPos endPos : Nat) (r : Nat × Nat)
    (h : r ∈ fmtBlockIndent b startPos endPos) :
    ∃ ls ip, startPos < ls ∧ ls < endPos ∧ b[ls - 1]? = some (.lead '\n') ∧ findNextChar b ls = some ip ∧
      ls ≤ r.1 ∧ r.2 ≤ ip :=
  have ⟨ls, ip, h1, h2, h3, h4, h5, _, h6⟩ := fmtBlockIndent_line b startPos endPos r h
  ⟨ls, ip, h1, h2, h3, h4, h5, h6⟩

theorem fmtBlockIndent_ok (s : List Char) (startPos endPos : Nat) :
    ∀ r ∈ fmtBlockIndent (bytesOf s) startPos endPos, RangeOK s r := by
  intro r hr
  obtain ⟨ls, ip, h0, _, hnl, hip, m1, m2, m3⟩ := fmtBlockIndent_line _ _ _ r hr
  obtain ⟨_, _, c2, _, c4⟩ := findNextChar_some _ ls ip hip
  rw [bytesOf_length] at c2
  have hb := (nl_next_boundary s (ls - 1) hnl).1
  rw [show ls - 1 + 1 = ls by omega] at hb
  have bnd : ∀ z, ls ≤ z → z ≤ ip → isBoundary (bytesOf s) z = true := fun z hz1 hz2 =>
    (skip_run_blank s ls z hb (fun i h1 h2 => c4 i h1 (by omega))).2 (by omega) hz1
  exact ⟨m2, Nat.le_trans m3 (Nat.le_of_lt c2), WsRange_sub _ ls ip _ _ (WsRange_of_skip s ls ip hb c4) m1 m3,
    bnd _ m1 (Nat.le_trans m2 m3), bnd _ (Nat.le_trans m1 m2) m3⟩

/-- the block part of one step of `format`'s loop: the indentation ranges of the lines between a seam and the later
    seam it is paired with -/
def blockRanges (b : Bytes) (all : List (Nat × Option Nat)) (pos : Nat) : Option Nat → R (List Rng')
  | some i =>
    match all[i]? with
    | some (pairStart, _) => if pos < pairStart then .ok (fmtBlockIndent b pos pairStart) else .ok []
    | none => .error .indexOob
  | none => .ok []

theorem formatCollect_cons_ok (b : Bytes) (all : List (Nat × Option Nat)) (pos : Nat) (pair : Option Nat)
    (rest : List (Nat × Option Nat)) (rs bs : List Rng') :
    formatCollect b all ((pos, pair) :: rest) = .ok (rs, bs) ↔
      ∃ r blk rs' bs', formatBlock b pos seamFormatters (pos, pos) = .ok r ∧ blockRanges b all pos pair = .ok blk ∧
        formatCollect b all rest = .ok (rs', bs') ∧ rs = r :: rs' ∧ bs = blk ++ bs' := by
  have step : formatCollect b all ((pos, pair) :: rest) =
      (match formatBlock b pos seamFormatters (pos, pos) with
        | .error e => .error e
        | .ok range =>
          match blockRanges b all pos pair with
          | .error e => .error e
          | .ok blk =>
            match formatCollect b all rest with
            | .error e => .error e
            | .ok (rs, bs) => .ok (range :: rs, blk ++ bs)) := by
    cases pair <;> rfl
  rw [step]
  cases formatBlock b pos seamFormatters (pos, pos) with
  | error e => exact ⟨nofun, fun ⟨_, _, _, _, h, _⟩ => nomatch h⟩
  | ok r =>
    cases blockRanges b all pos pair with
    | error e => exact ⟨nofun, fun ⟨_, _, _, _, _, h, _⟩ => nomatch h⟩
    | ok blk =>
      rcases formatCollect b all rest with _ | ⟨rs', bs'⟩
      · exact ⟨nofun, fun ⟨_, _, _, _, _, _, h, _⟩ => nomatch h⟩
      · constructor
        · intro h
          injection h with h
          injection h with h1 h2
          exact ⟨r, blk, rs', bs', rfl, rfl, rfl, h1.symm, h2.symm⟩
        · rintro ⟨_, _, _, _, ⟨⟩, ⟨⟩, ⟨⟩, rfl, rfl⟩
          rfl

/-- the range around the removed position `p` (`(p, p)` should `format_block` fail) -/
def seamHull (b : Bytes) (p : Nat) : Rng' :=
  match formatBlock b p seamFormatters (p, p) with
  | .ok r => r
  | .error _ => (p, p)

/-- the block ranges the removed position `p` brings (none should the pair index be invalid) -/
def blocksAt (b : Bytes) (all : List (Nat × Option Nat)) (p : Nat × Option Nat) : List Rng' :=
  match blockRanges b all p.1 p.2 with
  | .ok l => l
  | .error _ => []

theorem seamHull_eq {b : Bytes} {p : Nat} {r : Rng'} (h : formatBlock b p seamFormatters (p, p) = .ok r) :
    seamHull b p = r := by
  unfold seamHull; rw [h]

theorem mem_blocksAt {b : Bytes} {all : List (Nat × Option Nat)} {p : Nat × Option Nat} {r : Rng'} :
    r ∈ blocksAt b all p ↔
      ∃ j q x, p.2 = some j ∧ all[j]? = some (q, x) ∧ p.1 < q ∧ r ∈ fmtBlockIndent b p.1 q := by
  obtain ⟨pos, pair⟩ := p
  cases pair with
  | none => exact ⟨fun h => (nomatch h), fun ⟨_, _, _, e, _⟩ => (nomatch e)⟩
  | some i =>
    constructor
    · intro h
      simp only [blocksAt, blockRanges] at h
      split at h
      · rename_i h'
        split at h'
        · rename_i q x hq
          split at h' <;> cases h'
          · exact ⟨i, q, x, rfl, hq, ‹_›, h⟩
          · cases h
        · cases h'
      · cases h
    · rintro ⟨j, q, x, e, hj, hlt, h⟩
      cases e
      simp only [blocksAt, blockRanges, hj, hlt, if_true]
      exact h

theorem formatCollect_eq (b : Bytes) (all ps : List (Nat × Option Nat)) (rs bs : List Rng')
    (h : formatCollect b all ps = .ok (rs, bs)) :
    (∀ p ∈ ps, formatBlock b p.1 seamFormatters (p.1, p.1) = .ok (seamHull b p.1)) ∧
      rs = ps.map (fun p => seamHull b p.1) ∧ bs = ps.flatMap (blocksAt b all) := by
  induction ps generalizing rs bs with
  | nil =>
    cases h
    exact ⟨fun _ hp => (nomatch hp), rfl, rfl⟩
  | cons p rest ih =>
    obtain ⟨r, blk, rs', bs', hfb, hblk, hrest, rfl, rfl⟩ := (formatCollect_cons_ok _ _ _ _ _ _ _).mp h
    obtain ⟨i1, rfl, rfl⟩ := ih rs' bs' hrest
    refine ⟨fun q hq => ?_, by rw [List.map_cons, seamHull_eq hfb], by rw [List.flatMap_cons, blocksAt, hblk]⟩
    rcases List.mem_cons.mp hq with rfl | hq
    · rw [seamHull_eq hfb]; exact hfb
    · exact i1 q hq

theorem formatCollect_ok (s : List Char) (all : List (Nat × Option Nat)) (ps : List (Nat × Option Nat))
    (rs bs : List (Nat × Nat))
    (h : formatCollect (bytesOf s) all ps = .ok (rs, bs)) :
    (∀ r ∈ rs, RangeOK s r) ∧ (∀ r ∈ bs, RangeOK s r) := by
  obtain ⟨hhull, rfl, rfl⟩ := formatCollect_eq _ _ _ _ _ h
  refine ⟨fun r hr => ?_, fun r hr => ?_⟩
  · obtain ⟨p, hp, rfl⟩ := List.mem_map.mp hr
    exact (formatBlock_good s _ _ (hhull p hp)).2.ok
  · obtain ⟨p, _, hr⟩ := List.mem_flatMap.mp hr
    obtain ⟨_, q, _, _, _, _, hr⟩ := mem_blocksAt.mp hr
    exact fmtBlockIndent_ok s _ q r hr

end Chiritori
