import Chiritori.Lemmas.FormatMerge
/-
  `occurInOrder` (the greedy matcher of C14) accepts every text in which the patterns occur in order as disjoint
  substrings; and deleting indices that avoid the patterns keeps them so. What `trimWs` keeps of a stretch.
-/
namespace Chiritori
open Spec

inductive Embeds : List Bytes → Bytes → Prop
  | nil (s : Bytes) : Embeds [] s
  | cons (g t rest : Bytes) (ps : List Bytes) : Embeds ps rest → Embeds (t :: ps) (g ++ (t ++ rest))

theorem Embeds.prepend {ps : List Bytes} {s : Bytes} (z : Bytes) (h : Embeds ps s) : Embeds ps (z ++ s) := by
  cases h with
  | nil => exact .nil _
  | cons g t rest ps h =>
    rw [← List.append_assoc]
    exact .cons (z ++ g) t rest ps h

theorem findBytes_le (pat : Bytes) : ∀ (g r : Bytes), ∃ i, i ≤ g.length ∧ findBytes pat (g ++ (pat ++ r)) = some i
  | [], r => by
    refine ⟨0, Nat.le_refl _, ?_⟩
    simp only [List.nil_append]
    cases h : pat ++ r with
    | nil =>
      have : pat = [] := by
        cases pat with
        | nil => rfl
        | cons _ _ => simp at h
      simp [findBytes, this]
    | cons c cs =>
      simp only [findBytes]
      rw [← h, List.isPrefixOf_iff_prefix.mpr (List.prefix_append pat r)]
      rfl
  | a :: g, r => by
    obtain ⟨i, hi, hf⟩ := findBytes_le pat g r
    simp only [List.cons_append, findBytes]
    by_cases hp : pat.isPrefixOf (a :: (g ++ (pat ++ r))) = true
    · exact ⟨0, Nat.zero_le _, by rw [if_pos hp]⟩
    · refine ⟨i + 1, by simp; omega, ?_⟩
      rw [if_neg hp, hf]
      rfl

theorem occurInOrder_of_embeds : ∀ (ps : List Bytes) (s : Bytes), Embeds ps s → occurInOrder ps s = true
  | [], _, _ => rfl
  | t :: ps, s, h => by
    cases h with
    | cons g t rest ps h =>
      obtain ⟨i, hi, hf⟩ := findBytes_le t g rest
      simp only [occurInOrder, hf]
      apply occurInOrder_of_embeds ps
      have e : g ++ (t ++ rest) = (g ++ t) ++ rest := by simp
      rw [e, List.drop_append_of_le_length (by simp; omega)]
      exact h.prepend _

/-- a text laid out as gaps and cores: `g₀ c₀ g₁ c₁ … tail` -/
def layoutBytes : List (Bytes × Bytes) → Bytes → Bytes
  | [], tail => tail
  | (g, c) :: rest, tail => g ++ (c ++ layoutBytes rest tail)

/-- no index of any core (counted from `off`) is deleted -/
def CoresKept (rs : List Rng) : List (Bytes × Bytes) → Nat → Prop
  | [], _ => True
  | (g, c) :: rest, off =>
    (∀ i, off + g.length ≤ i → i < off + g.length + c.length → inAny rs i = false) ∧
    CoresKept rs rest (off + g.length + c.length)

theorem embeds_minusFrom (rs : List Rng) : ∀ (segs : List (Bytes × Bytes)) (tail : Bytes) (off : Nat),
    CoresKept rs segs off → Embeds (segs.map (·.2)) (minusFrom (layoutBytes segs tail) off rs)
  | [], tail, off, _ => .nil _
  | (g, c) :: rest, tail, off, h => by
    obtain ⟨h1, h2⟩ := h
    simp only [layoutBytes, List.map_cons]
    rw [minusFrom_append, minusFrom_append, minusFrom_keep c _ rs h1]
    exact .cons _ c _ _ (by
      have := embeds_minusFrom rs rest tail (off + g.length + c.length) h2
      simpa [Nat.add_assoc] using this)

theorem Embeds.filter_nonempty : ∀ (ps : List Bytes) (s : Bytes), Embeds ps s → Embeds (ps.filter (· != [])) s
  | [], s, _ => .nil s
  | t :: ps, s, h => by
    cases h with
    | cons g t rest ps h =>
      have ih := Embeds.filter_nonempty ps rest h
      simp only [List.filter_cons]
      by_cases ht : t = []
      · subst ht
        simp only [bne_self_eq_false, Bool.false_eq_true, ite_false, List.nil_append]
        exact ih.prepend g
      · have : (t != []) = true := by simpa using ht
        rw [if_pos this]
        exact .cons g t rest _ ih

theorem head?_dropWhile_isWs (l : Bytes) (x : ABy) (h : (l.dropWhile isWs).head? = some x) : isWs x = false := by
  have := List.head?_dropWhile_not isWs l
  rw [h] at this
  exact this

def trimL (b : Bytes) : Bytes := b.takeWhile isWs
def trimR (b : Bytes) : Bytes := ((b.dropWhile isWs).reverse.takeWhile isWs).reverse

theorem trimWs_decomp (b : Bytes) : b = trimL b ++ (trimWs b ++ trimR b) ∧ (∀ x ∈ trimL b, isWs x = true) ∧
    (∀ x ∈ trimR b, isWs x = true) ∧
    (∀ x, (trimWs b).head? = some x → isWs x = false) ∧ (∀ x, (trimWs b).getLast? = some x → isWs x = false) := by
  unfold trimL trimR
  have e1 : b = b.takeWhile isWs ++ b.dropWhile isWs := (List.takeWhile_append_dropWhile).symm
  generalize hm : b.dropWhile isWs = m at e1
  have e2 : m.reverse = m.reverse.takeWhile isWs ++ m.reverse.dropWhile isWs := (List.takeWhile_append_dropWhile).symm
  have e3 : m = (m.reverse.dropWhile isWs).reverse ++ (m.reverse.takeWhile isWs).reverse := by
    have := congrArg List.reverse e2
    rw [List.reverse_reverse, List.reverse_append] at this
    exact this
  have ht : trimWs b = (m.reverse.dropWhile isWs).reverse := by simp [trimWs, hm]
  refine ⟨?_, ?_, ?_, ?_, ?_⟩
  · rw [ht, ← e3]; exact e1
  · intro x hx
    have := List.all_takeWhile (l := b) (p := isWs)
    exact List.all_eq_true.mp this x hx
  · intro x hx
    have := List.all_takeWhile (l := m.reverse) (p := isWs)
    exact List.all_eq_true.mp this x (List.mem_reverse.mp hx)
  · intro x hx
    rw [ht] at hx
    -- the core is a prefix of `m`, whose head is not whitespace
    have hmh : m.head? = some x := by
      rw [e3, List.head?_append, hx]; rfl
    rw [← hm] at hmh
    exact head?_dropWhile_isWs b x hmh
  · intro x hx
    rw [ht, List.getLast?_reverse] at hx
    exact head?_dropWhile_isWs _ x hx

theorem trimWs_nil : trimWs [] = [] := rfl

def ne (x : Bytes) : Bool := x != []

end Chiritori
