import Chiritori.Lemmas.ScanRun
/-
  Pieces that fit the delimiters (`wideOK`, the hypothesis of `c08_wide`): a condition on the automaton (`quietT`,
  `quietE`) and one on the textbook scan (`noOcc`), both Boolean functions of a piece and a delimiter alone.
-/
namespace Chiritori
open Spec

/-- the automaton over a stretch of text: it never completes the start delimiter and ends in the text state -/
def quietT (ds : List Char) : TState → List Char → Bool
  | st, [] => st == .text
  | .text, c :: cs => quietT ds (checkDelimiterStart c ds) cs
  | .dstart [], _ :: _ => false
  | .dstart (x :: r), c :: cs => if c = x then quietT ds (.dstart r) cs else quietT ds .text cs
  | .inDelim, _ :: _ => false
  | .dend _, _ :: _ => false

/-- the automaton over the body of a tag behind its first character: it never completes the end delimiter and
    ends with no partial match pending -/
def quietE (de : List Char) : TState → List Char → Bool
  | st, [] => st == .inDelim
  | .inDelim, c :: cs =>
    match de with
    | [] => false
    | e0 :: er => if c = e0 then quietE de (.dend er) cs else quietE de .inDelim cs
  | .dend [], _ :: _ => false
  | .dend (x :: r), c :: cs => if c = x then quietE de (.dend r) cs else quietE de .inDelim cs
  | .text, _ :: _ => false
  | .dstart _, _ :: _ => false

/-- `pat` does not occur in `s ++ pat.dropLast`: no occurrence begins inside `s` when `pat` follows -/
def noOcc (pat s : List Char) : Bool := (findSub pat (s ++ pat.dropLast)).isNone

def textFit (ds s : List Char) : Bool := quietT ds .text s && noOcc ds s
def bodyFit (de rest : List Char) : Bool := quietE de .inDelim rest && noOcc de rest

/-- the pieces fit the delimiters: every maximal stretch of text and every tag body does -/
def wideOK (ds de : List Char) : List Piece → List Char → Bool
  | [], acc => textFit ds acc
  | .text s :: ps, acc => wideOK ds de ps (acc ++ s)
  | .tag _ rest :: ps, acc => textFit ds acc && bodyFit de rest && wideOK ds de ps []

/-- states in which text is being collected -/
def textish : TState → Bool
  | .text => true
  | .dstart _ => true
  | _ => false

theorem textish_checkDelimiterStart (c : Char) (ds : List Char) : textish (checkDelimiterStart c ds) = true := by
  rcases checkDelimiterStart_cases c ds with h | ⟨r, -, h⟩ <;> rw [h] <;> rfl

theorem ne_dend_of_textish {st : TState} (h : textish st = true) : st ≠ .dend [] := by
  rintro rfl; cases h

theorem quietT_step (ds de : List Char) {st : TState} {c : Char} {cs : List Char} (ht : textish st = true)
    (hq : quietT ds st (c :: cs) = true) :
    textish (getState c ds de st).2 = true ∧ quietT ds (getState c ds de st).2 cs = true := by
  cases st with
  | text =>
    rw [getState_text_snd]
    exact ⟨textish_checkDelimiterStart c ds, by simpa only [quietT] using hq⟩
  | dstart r =>
    cases r with
    | nil => simp [quietT] at hq
    | cons x r =>
      rw [getState_dstart_cons]
      simp only [quietT] at hq
      by_cases hx : c = x
      · rw [if_pos hx] at hq ⊢; exact ⟨rfl, hq⟩
      · rw [if_neg hx] at hq ⊢; exact ⟨rfl, hq⟩
  | inDelim => cases ht
  | dend r => cases ht

theorem quietT_free (d0 : Char) (dr : List Char) : ∀ (s : List Char), (∀ c ∈ s, c ≠ d0) →
    quietT (d0 :: dr) .text s = true
  | [], _ => rfl
  | c :: cs, h => by
    simp only [quietT, checkDelimiterStart_of_ne (h c List.mem_cons_self)]
    exact quietT_free d0 dr cs (fun x hx => h x (List.mem_cons_of_mem _ hx))

theorem quietE_free (e0 : Char) (er : List Char) : ∀ (s : List Char), (∀ c ∈ s, c ≠ e0) →
    quietE (e0 :: er) .inDelim s = true
  | [], _ => rfl
  | c :: cs, h => by
    simp only [quietE, h c List.mem_cons_self, ite_false]
    exact quietE_free e0 er cs (fun x hx => h x (List.mem_cons_of_mem _ hx))

theorem quietE_step (ds de : List Char) {st : TState} {c : Char} {cs : List Char} (hq : quietE de st (c :: cs) = true) :
    ∃ st', getState c ds de st = (none, st') ∧ quietE de st' cs = true := by
  cases st with
  | text => simp [quietE] at hq
  | dstart r => simp [quietE] at hq
  | inDelim =>
    cases de with
    | nil => simp [quietE] at hq
    | cons e0 er =>
      rw [getState_inDelim]
      simp only [quietE] at hq
      by_cases hx : c = e0
      · rw [if_pos hx] at hq ⊢; exact ⟨_, rfl, hq⟩
      · rw [if_neg hx] at hq ⊢; exact ⟨_, rfl, hq⟩
  | dend r =>
    cases r with
    | nil => simp [quietE] at hq
    | cons x r =>
      rw [getState_dend_cons]
      simp only [quietE] at hq
      by_cases hx : c = x
      · rw [if_pos hx] at hq ⊢; exact ⟨_, rfl, hq⟩
      · rw [if_neg hx] at hq ⊢; exact ⟨_, rfl, hq⟩

theorem srun_quietE (ds de : List Char) (outs : SOut) : ∀ (cs : List Char) (st : TState) (pend : List Char),
    quietE de st cs = true → srun ds de ⟨outs, st, pend⟩ cs = ⟨outs, .inDelim, pend ++ cs⟩
  | [], st, pend, hq => by
    rw [eq_of_beq hq, List.append_nil]; rfl
  | c :: cs, st, pend, hq => by
    obtain ⟨st', hg, hq'⟩ := quietE_step ds de hq
    rw [srun_cons, sStep_of_none hg, srun_quietE ds de outs cs st' _ hq', List.append_assoc]
    rfl

theorem srun_tag (ds dr : List Char) (e0 : Char) (er : List Char) (outs : SOut) (pend : List Char) (b0 : Char)
    (rest : List Char) (h : quietE (e0 :: er) .inDelim rest = true) :
    srun ds (e0 :: er) ⟨outs, .dstart dr, pend⟩ (dr ++ (b0 :: (rest ++ (e0 :: er))))
      = ⟨outs, .dend [], pend ++ (dr ++ (b0 :: (rest ++ (e0 :: er))))⟩ := by
  have h1 := srun_delim ds (e0 :: er) .dstart (fun _ _ => if_pos rfl) outs dr [] pend
  have h4 := srun_delim ds (e0 :: er) .dend (fun _ _ => if_pos rfl) outs er [] (pend ++ dr ++ [b0] ++ rest ++ [e0])
  rw [List.append_nil] at h1 h4
  rw [srun_append, h1, srun_cons, sStep_of_none (getState_dstart_nil _ _ _), srun_append,
    srun_quietE _ _ _ _ _ _ h, srun_cons,
    sStep_of_none (st' := .dend er) (by rw [getState_inDelim, if_pos rfl]), h4]
  simp

end Chiritori
