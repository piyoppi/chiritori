import Chiritori.Lemmas.UnwrapTags
import Chiritori.Lemmas.SplitNLBounds
/-
  The ready extents of a parsed source against the finer chain of tokens (text tokens cut at their line breaks): when
  no tag contains a line break, every extent begins and ends at a boundary of the finer chain, so the finer tokens are
  covered wholly or not at all (`wholly_split`).  `kept_tagValues` is `kept_tags` for a parsed source.
-/
namespace Chiritori
open Spec

theorem kind_of_elparse (ds de : List Char) (t : Token) (el : Element) (h : elparse ds de t = some el) :
    t.kind = .element := by
  unfold elparse at h
  cases hk : t.kind with
  | text => simp [hk] at h
  | element => rfl

theorem OKS_kinds (ds de : List Char) (H : List Part) : ∀ (names : List (List Char)), OKS ds de names H →
    ∀ e ∈ elementsOf H, e.2.1.kind = .element ∧ e.2.2.kind = .element := by
  induction H using parts_induction with
  | nil => intro _ _ e he; cases he
  | text t rest ih => exact fun names h => ih _ h.2
  | element el st en ch rest ihc ihr =>
    intro names ⟨⟨a1, _, ⟨e', a3, _⟩, a4, _⟩, h2⟩ e he
    rcases List.mem_cons.mp he with rfl | he
    · exact ⟨kind_of_elparse ds de _ _ a1, kind_of_elparse ds de _ _ a3⟩
    · exact (List.mem_append.mp he).elim (ihc _ a4 e) (ihr _ h2 e)

theorem OKP_kinds (ds de : List Char) : ∀ (p : Part) (names : List (List Char)), OKP ds de names p →
    ∀ e ∈ elementsOfPart p, e.2.1.kind = .element ∧ e.2.2.kind = .element :=
  fun p names h e he => OKS_kinds ds de [p] names ⟨h, trivial⟩ e (List.mem_append_left _ he)

mutual
/-- every part that is left as text is a text token: no stray tags -/
def TextsAreText : List Part → Prop
  | [] => True
  | p :: ps => TextIsText p ∧ TextsAreText ps
def TextIsText : Part → Prop
  | .text t => t.kind = .text
  | .element _ _ _ ch => TextsAreText ch
end

theorem noStray_of_kinds (H : List Part) : TextsAreText H →
    (∀ e ∈ elementsOf H, e.2.1.kind = .element ∧ e.2.2.kind = .element) → NoStray H := by
  induction H using parts_induction with
  | nil => exact fun _ _ => trivial
  | text t rest ih => exact fun ht hk => ⟨ht.1, ih ht.2 hk⟩
  | element el st en ch rest ihc ihr =>
    intro ht hk
    have h0 := hk (el, st, en) (List.mem_cons_self ..)
    exact ⟨⟨h0.1, h0.2, ihc ht.1 fun e he => hk e (List.mem_cons_of_mem _ (List.mem_append_left _ he))⟩,
      ihr ht.2 fun e he => hk e (List.mem_cons_of_mem _ (List.mem_append_right _ he))⟩

theorem noStray_of_OKS (ds de : List Char) (H : List Part) (names : List (List Char)) (h : OKS ds de names H)
    (ht : TextsAreText H) : NoStray H :=
  noStray_of_kinds H ht (OKS_kinds ds de H names h)

theorem noStrayP_of_OKP (ds de : List Char) : ∀ (p : Part) (names : List (List Char)), OKP ds de names p →
    TextIsText p → NoStrayP p :=
  fun p names h ht => (noStray_of_OKS ds de [p] names ⟨h, trivial⟩ ⟨ht, trivial⟩).1

theorem extents_bnds (src ds de : List Char) (cfg : Cfg) (hde : de ≠ [])
    (htag : ∀ t ∈ tokenize src ds de, t.kind = .element → ∀ c ∈ t.value, c ≠ '\n') :
    ∀ r ∈ extentsOfSource src ds de cfg,
      IsBnd (splitToks (tokenize src ds de)) r.1 ∧ IsBnd (splitToks (tokenize src ds de)) r.2 := by
  obtain ⟨hok, _⟩ := tokenize_ok src ds de hde
  intro r hr
  obtain ⟨⟨el, st, en⟩, he, _, hre⟩ := mem_readyExtents.mp hr
  -- the tags of the element are tokens of the chain: boundaries
  obtain ⟨k1, k2⟩ := OKS_kinds ds de _ [] (parse_OKS ds de _) _ he
  obtain ⟨mst, men⟩ := elementsOf_mem_flatten _ _ _ _ he
  rw [parseSource, parse_flatten] at mst men
  simp only at hre k1 k2
  have bst := isBnd_splitToks_of_tag (tokenize src ds de) st mst k1
  have ben := isBnd_splitToks_of_tag (tokenize src ds de) en men k2
  rcases mem_extentOf hre with rfl | ⟨h, t, hu, hre⟩
  · exact ⟨bst.1, ben.2⟩
  · -- the inner ends of the two parts stand at line breaks of the text: tokens of the finer chain
    have hsp := BSpan_elements.2 _ 0 (blen src) (parseSource_span src ds de hde) _ he
    simp only at hsp
    obtain ⟨p1, _, p3, _, p5, p6, p7⟩ := unwrapParts_pos (bytesOf src) st en h t (by omega) (by simp; omega) hu
    rw [← hok.flatEq] at p6 p7
    obtain ⟨u, hu1, hu2, _, _⟩ := splitToks_nl_token _ 0 0 h.2 hok.chain htag p6
    obtain ⟨v, hv1, _, hv3, _⟩ := splitToks_nl_token _ 0 0 (t.1 - 1) hok.chain htag p7
    rcases hre with rfl | rfl
    · exact ⟨p1 ▸ bst.1, Or.inl ⟨u, hu1, by rw [hu2, Nat.zero_add]⟩⟩
    · exact ⟨Or.inr ⟨v, hv1, by rw [hv3, Nat.zero_add, Nat.sub_add_cancel (Nat.zero_lt_of_lt p3)]⟩, p5 ▸ ben.2⟩

theorem wholly_split (src ds de : List Char) (cfg : Cfg) (hde : de ≠ [])
    (htag : ∀ t ∈ tokenize src ds de, t.kind = .element → ∀ c ∈ t.value, c ≠ '\n') :
    Wholly (extentsOfSource src ds de cfg) (splitToks (tokenize src ds de)) := by
  obtain ⟨hok, _⟩ := tokenize_ok src ds de hde
  exact wholly_of_bnds _ _ 0 _ (BSpan_of_chain _ 0 0 (splitToks_chain _ 0 0 hok.chain)) (extents_bnds src ds de cfg hde htag)

theorem kept_tagValues (src ds de : List Char) (cfg : Cfg) (hde : de ≠ [])
    (htext : TextsAreText (parseSource src ds de)) (hshape : ReadyShape cfg (bytesOf src) (parseSource src ds de)) :
    tagValues ((tokenize src ds de).filter (keepTok (extentsOfSource src ds de cfg))) =
      tagValues (flattenParts (spliceParts (isUnwrapReady cfg) (pruneParts (isDefaultReady cfg) (parseSource src ds de)))) := by
  have hkept := kept_tags cfg (bytesOf src) (extentsOfSource src ds de cfg) (parseSource src ds de) 0 (blen src)
    (parseSource_span src ds de hde) (by simp) (noStray_of_OKS _ _ _ [] (parse_OKS ds de _) htext) hshape
    (fun t _ _ => by rw [extentsOfSource, readyExtents_eq])
  rw [show flattenParts (parseSource src ds de) = tokenize src ds de from parse_flatten ds de _] at hkept
  unfold tagValues
  rw [List.filter_filter]
  exact congrArg _ hkept.symm

end Chiritori
