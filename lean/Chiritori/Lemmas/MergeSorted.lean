import Chiritori.Lemmas.FormatMerge
/-
  Lists of ranges sorted by start: `merge_ranges` of two of them is one, and `merge_overlapped_ranges` of one loses no
  point and brings no new start. (`merge_overlapped_ranges` compares each range with the running one only, so on an
  unsorted list it can drop points.)
-/
namespace Chiritori.Props.C12
open Chiritori Chiritori.Spec

def LeS (a b : Rng') : Prop := a.1 ≤ b.1

theorem insertByStart_sorted (x : Rng') (l : List Rng') (h : l.Pairwise LeS) : (insertByStart x l).Pairwise LeS := by
  induction l with
  | nil => simp [insertByStart]
  | cons y ys ih =>
    simp only [insertByStart]
    simp only [List.pairwise_cons] at h
    split
    · rename_i hlt
      simp only [List.pairwise_cons]
      refine ⟨?_, h⟩
      intro a ha
      rcases List.mem_cons.mp ha with rfl | ha
      · exact hlt
      · exact Nat.le_trans hlt (h.1 a ha)
    · rename_i hge
      simp only [List.pairwise_cons]
      refine ⟨?_, ih h.2⟩
      intro a ha
      rcases List.mem_cons.mp ((insertByStart_perm x ys).mem_iff.mp ha) with rfl | ha
      · unfold LeS; omega
      · exact h.1 a ha

theorem sortByStart_sorted (l : List Rng') : (sortByStart l).Pairwise LeS := by
  induction l with
  | nil => exact List.Pairwise.nil
  | cons x xs ih => exact insertByStart_sorted x _ ih

/-- the cursor loop of `merge_ranges` (`findCursor`) on a list cut behind the cursor: it stops at the last of
    `A ++ [x]` that starts before `s` -/
theorem findCursor_split (s : Nat) : ∀ (n : Nat) (A : List Rng') (x : Rng') (B : List Rng'), A.length = n →
    match findCursor (A ++ x :: B) s n with
    | some i => ∃ A1 y A2, A ++ [x] = A1 ++ y :: A2 ∧ A1.length = i ∧ y.1 < s ∧ ∀ a ∈ A2, s ≤ a.1
    | none => ∀ a ∈ A ++ [x], s ≤ a.1 := by
  intro n
  induction n with
  | zero =>
    intro A x B hn
    cases List.eq_nil_of_length_eq_zero hn
    simp only [findCursor, List.nil_append, List.getElem?_cons_zero]
    by_cases hlt : x.1 < s
    · rw [if_pos hlt]; exact ⟨[], x, [], rfl, rfl, hlt, fun _ h => nomatch h⟩
    · rw [if_neg hlt]
      intro a ha
      cases List.mem_singleton.mp ha
      omega
  | succ n ih =>
    intro A x B hn
    have hx : (A ++ x :: B)[n + 1]? = some x := by rw [← hn, List.getElem?_append_right (Nat.le_refl _)]; simp
    simp only [findCursor, hx]
    by_cases hlt : x.1 < s
    · rw [if_pos hlt]; exact ⟨A, x, [], rfl, hn, hlt, fun _ h => nomatch h⟩
    · -- the scan goes on in front of `x`
      rw [if_neg hlt]
      obtain ⟨A', a', rfl⟩ : ∃ A' a', A = A' ++ [a'] := by
        rcases List.eq_nil_or_concat A with h | ⟨A', a', h⟩
        · rw [h] at hn; cases hn
        · exact ⟨A', a', by rw [h, List.concat_eq_append]⟩
      have ih := ih A' a' (x :: B) (by simpa using hn)
      rw [show A' ++ [a'] ++ x :: B = A' ++ a' :: x :: B by simp]
      generalize findCursor (A' ++ a' :: x :: B) s n = fc at ih ⊢
      cases fc with
      | some i =>
        obtain ⟨A1, y, A2, e, hl, hy, hA2⟩ := ih
        exact ⟨A1, y, A2 ++ [x], by rw [e]; simp, hl, hy, fun a ha =>
          (List.mem_append.mp ha).elim (hA2 a) fun h => by cases List.mem_singleton.mp h; omega⟩
      | none =>
        intro a ha
        rcases List.mem_append.mp ha with h | h
        · exact ih a h
        · cases List.mem_singleton.mp h; omega

theorem insertAt_split (L R : List Rng') (n : Rng') : insertAt (L ++ R) L.length n = L ++ n :: R := by
  simp [insertAt]

theorem pairwise_insert {L R : List Rng'} {n : Rng'} (h : (L ++ R).Pairwise LeS) (hL : ∀ a ∈ L, a.1 ≤ n.1)
    (hR : ∀ b ∈ R, n.1 ≤ b.1) : (L ++ n :: R).Pairwise LeS := by
  obtain ⟨p1, p2, p3⟩ := List.pairwise_append.mp h
  exact List.pairwise_append.mpr ⟨p1, List.pairwise_cons.mpr ⟨hR, p2⟩, fun a ha b hb =>
    (List.mem_cons.mp hb).elim (fun e => e ▸ hL a ha) (p3 a ha b)⟩

/-- the merge loop once the cursor has fallen off the front: every new range goes to the front -/
theorem mergeRangesLoop_none_sorted (news ranges : List Rng') (bound : Nat) (hs : ranges.Pairwise LeS)
    (hb : ∀ r ∈ ranges, bound ≤ r.1) (hd : news.Pairwise (fun a b => b.1 ≤ a.1)) (hn : ∀ n ∈ news, n.1 ≤ bound) :
    (mergeRangesLoop ranges none news).Pairwise LeS := by
  induction news generalizing ranges bound with
  | nil => exact hs
  | cons n ns ih =>
    have hnb := hn n List.mem_cons_self
    have hall : ∀ r ∈ ranges, n.1 ≤ r.1 := fun r hr => Nat.le_trans hnb (hb r hr)
    simp only [mergeRangesLoop]
    rw [show insertAt ranges 0 n = n :: ranges from insertAt_split [] ranges n]
    exact ih _ n.1 (List.pairwise_cons.mpr ⟨hall, hs⟩)
      (fun r hr => (List.mem_cons.mp hr).elim (fun e => e ▸ Nat.le_refl _) (hall r))
      (List.pairwise_cons.mp hd).2 (List.pairwise_cons.mp hd).1

/-- the merge loop with the cursor on `x`: what stands behind the cursor starts at or behind `bound`, the new ranges
    come with falling starts, none behind `bound` -/
theorem mergeRangesLoop_sorted (news A : List Rng') (x : Rng') (B : List Rng') (bound : Nat)
    (hs : (A ++ x :: B).Pairwise LeS) (hb : ∀ b ∈ B, bound ≤ b.1) (hd : news.Pairwise (fun a b => b.1 ≤ a.1))
    (hn : ∀ n ∈ news, n.1 ≤ bound) : (mergeRangesLoop (A ++ x :: B) (some A.length) news).Pairwise LeS := by
  induction news generalizing A x B bound with
  | nil => exact hs
  | cons n ns ih =>
    have hnb := hn n List.mem_cons_self
    obtain ⟨hd1, hd2⟩ := List.pairwise_cons.mp hd
    have hsplit := findCursor_split n.1 A.length A x B rfl
    simp only [mergeRangesLoop]
    split at hsplit
    · -- the new range goes behind `y`, the cursor onto `y`
      rename_i i hfc
      obtain ⟨A1, y, A2, e, rfl, hy, hA2⟩ := hsplit
      have e' : A ++ x :: B = (A1 ++ [y]) ++ (A2 ++ B) := by
        rw [show A ++ x :: B = (A ++ [x]) ++ B by simp, e]; simp
      have hs' := e' ▸ hs
      rw [hfc]
      simp only
      rw [e', show A1.length + 1 = (A1 ++ [y]).length by simp, insertAt_split,
        show A1 ++ [y] ++ n :: (A2 ++ B) = A1 ++ y :: (n :: (A2 ++ B)) by simp]
      have hR : ∀ b ∈ A2 ++ B, n.1 ≤ b.1 := fun b hb' =>
        (List.mem_append.mp hb').elim (hA2 b) fun h => Nat.le_trans hnb (hb b h)
      refine ih A1 y _ n.1 ?_
        (fun b hb' => (List.mem_cons.mp hb').elim (fun e => e ▸ Nat.le_refl _) (hR b)) hd2 hd1
      have := pairwise_insert (n := n) hs' (fun a ha => ?_) hR
      · simpa using this
      · rcases List.mem_append.mp ha with h | h
        · have := (List.pairwise_append.mp (List.pairwise_append.mp hs').1).2.2 a h y (by simp)
          exact Nat.le_of_lt (Nat.lt_of_le_of_lt this hy)
        · cases List.mem_singleton.mp h; exact Nat.le_of_lt hy
    · -- no range in front of the cursor starts before the new one
      rename_i hfc
      have hall : ∀ r ∈ A ++ x :: B, n.1 ≤ r.1 := fun r hr => by
        rcases List.mem_append.mp (show r ∈ (A ++ [x]) ++ B by simpa using hr) with h | h
        · exact hsplit r h
        · exact Nat.le_trans hnb (hb r h)
      rw [hfc]
      exact mergeRangesLoop_none_sorted (n :: ns) _ n.1 hs hall hd fun m hm =>
        (List.mem_cons.mp hm).elim (fun e => e ▸ Nat.le_refl _) (hd1 m)

theorem mergeRanges_sorted (ranges news : List Rng') (hr : ranges.Pairwise LeS) (hn : news.Pairwise LeS) :
    (mergeRanges ranges news).Pairwise LeS := by
  unfold mergeRanges
  split
  · exact hr
  · -- the cursor starts on the last range; the largest start among the new ranges bounds them all
    rename_i hne
    obtain ⟨A, x, rfl⟩ : ∃ A x, ranges = A ++ [x] := by
      rcases List.eq_nil_or_concat ranges with h | ⟨A, x, h⟩
      · simp [h] at hne
      · exact ⟨A, x, by rw [h, List.concat_eq_append]⟩
    have hdesc : news.reverse.Pairwise (fun a b => b.1 ≤ a.1) := List.pairwise_reverse.mpr hn
    rw [show (A ++ [x]).length - 1 = A.length by simp]
    cases hrev : news.reverse with
    | nil => exact hr
    | cons top rest =>
      rw [hrev] at hdesc
      exact mergeRangesLoop_sorted _ A x [] top.1 hr (fun _ h => nomatch h) hdesc fun m hm =>
        (List.mem_cons.mp hm).elim (fun e => by rw [e]; exact Nat.le_refl _) ((List.pairwise_cons.mp hdesc).1 m)

theorem mem_mergeRanges_conv (ranges news : List Rng') (hne : ranges ≠ []) (x : Rng') (h : x ∈ ranges ∨ x ∈ news) :
    x ∈ mergeRanges ranges news :=
  (mergeRanges_perm ranges news hne).mem_iff.mpr (List.mem_append.mpr h.symm)

end Chiritori.Props.C12

namespace Chiritori.Props.C13
open Chiritori Chiritori.Spec Chiritori.Props.C12

def StartSorted : List Rng' → Prop
  | [] => True
  | [_] => True
  | x :: y :: rest => x.1 ≤ y.1 ∧ StartSorted (y :: rest)

theorem startSorted_iff (l : List Rng') : StartSorted l ↔ l.Pairwise LeS := by
  induction l with
  | nil => simp [StartSorted]
  | cons x l ih =>
    cases l with
    | nil => simp [StartSorted]
    | cons y rest =>
      simp only [StartSorted, ih, List.pairwise_cons (a := x)]
      constructor
      · rintro ⟨h1, h2⟩
        refine ⟨fun a ha => ?_, h2⟩
        rcases List.mem_cons.mp ha with rfl | ha
        · exact h1
        · exact Nat.le_trans h1 ((List.pairwise_cons.mp h2).1 a ha)
      · rintro ⟨h1, h2⟩
        exact ⟨h1 y List.mem_cons_self, h2⟩

theorem mergeOverlappedGo_cover (xs : List Rng') : ∀ (cur : Rng'), (cur :: xs).Pairwise LeS →
    ∀ d, inAny (cur :: xs) d = true → inAny (mergeOverlappedGo cur xs) d = true := by
  induction xs with
  | nil => exact fun _ _ _ hd => hd
  | cons x xs ih =>
    intro cur hs d hd
    obtain ⟨hcur, hxs⟩ := List.pairwise_cons.mp hs
    rw [inAny_cons, Bool.or_eq_true] at hd
    rw [mergeOverlappedGo]
    split
    · -- `x` begins inside `cur` or where it ends: the widened range holds what either of them holds
      refine ih (cur.1, max cur.2 x.2) (List.pairwise_cons.mpr
        ⟨fun y hy => hcur y (List.mem_cons_of_mem _ hy), (List.pairwise_cons.mp hxs).2⟩) d ?_
      have hx : cur.1 ≤ x.1 := hcur x List.mem_cons_self
      rw [inAny_cons, Bool.or_eq_true] at hd ⊢
      simp only [Rng.contains_iff] at hd ⊢
      rcases hd with h | h | h
      · exact Or.inl ⟨h.1, by omega⟩
      · exact Or.inl ⟨by omega, by omega⟩
      · exact Or.inr h
    · rw [inAny_cons, Bool.or_eq_true]
      exact hd.imp_right (ih x hxs d)

theorem mergeOverlapped_cover (l : List Rng') (hs : StartSorted l) (d : Nat) (h : inAny l d = true) :
    inAny (mergeOverlapped l) d = true := by
  cases l with
  | nil => exact h
  | cons c cs => exact mergeOverlappedGo_cover cs c ((startSorted_iff _).mp hs) d h

theorem mergeOverlappedGo_start (xs : List Rng') : ∀ (cur : Rng'), ∀ r ∈ mergeOverlappedGo cur xs,
    r.1 = cur.1 ∨ ∃ x ∈ xs, r.1 = x.1 := by
  induction xs with
  | nil => intro cur r hr; simp [mergeOverlappedGo] at hr; left; rw [hr]
  | cons x xs ih =>
    intro cur r hr
    simp only [mergeOverlappedGo] at hr
    split at hr
    · rcases ih _ r hr with h | ⟨y, hy, h⟩
      · exact Or.inl h
      · exact Or.inr ⟨y, by simp [hy], h⟩
    · rcases List.mem_cons.mp hr with rfl | hr
      · exact Or.inl rfl
      · rcases ih _ r hr with h | ⟨y, hy, h⟩
        · exact Or.inr ⟨x, by simp, h⟩
        · exact Or.inr ⟨y, by simp [hy], h⟩

theorem mergeOverlapped_start (l : List Rng') : ∀ r ∈ mergeOverlapped l, ∃ x ∈ l, r.1 = x.1 := by
  intro r hr
  cases l with
  | nil => simp [mergeOverlapped] at hr
  | cons c cs =>
    rcases mergeOverlappedGo_start cs c r hr with h | ⟨x, hx, h⟩
    · exact ⟨c, by simp, h⟩
    · exact ⟨x, by simp [hx], h⟩

/-- no point of the seam ranges `rs` (sorted by start) or of the block ranges `bs` is lost on the way through `merge_ranges`
    and `merge_overlapped_ranges`; without seam ranges there are no block ranges, else `merge_ranges` would drop them -/
theorem inAny_merged_conv (rs bs : List Rng') (hne : rs = [] → bs = []) (hs : StartSorted rs) (d : Nat)
    (h : inAny rs d = true ∨ inAny bs d = true) :
    inAny (mergeOverlapped (mergeRanges rs (sortByStart bs))) d = true := by
  have hrs : rs ≠ [] := by
    rintro rfl
    rw [hne rfl] at h
    simp [inAny] at h
  refine mergeOverlapped_cover _ ((startSorted_iff _).mpr
    (mergeRanges_sorted _ _ ((startSorted_iff _).mp hs) (sortByStart_sorted _))) d ?_
  rcases h with h | h <;> obtain ⟨x, hx, hxd⟩ := (inAny_iff _ _).mp h
  · exact (inAny_iff _ _).mpr ⟨x, mem_mergeRanges_conv _ _ hrs x (Or.inl hx), hxd⟩
  · exact (inAny_iff _ _).mpr ⟨x, mem_mergeRanges_conv _ _ hrs x (Or.inr ((sortByStart_perm _).mem_iff.mpr hx)), hxd⟩

end Chiritori.Props.C13
