import Chiritori.Lemmas.CollectAll
/-
  Item-level characterisation of the regions (C15, C17): in a document without tags on wrapper lines the merged
  markers of the forest of the elements that `sel` selects are exactly `refRegions sel` - one region per
  default-strategy element, two per unwrapped element with the inner regions between them, in document order.
  With `sel` the readiness formula these are the Ready regions, with `conditionPending` the Pending ones.
-/
namespace Chiritori
open Spec

def rangesOf (ms : List Marker) : List Rng := ms.map fun m => (m.start, m.stop)

theorem rangesOf_append (a b : List Marker) : rangesOf (a ++ b) = rangesOf a ++ rangesOf b :=
  List.map_append

theorem rangesOf_map (f : Marker → Marker) (hf : ∀ m, (f m).start = m.start ∧ (f m).stop = m.stop) (l : List Marker) :
    rangesOf (l.map f) = rangesOf l := by
  simp only [rangesOf, List.map_map]
  exact List.map_congr_left fun m _ => by simp only [Function.comp, (hf m).1, (hf m).2]

theorem mem_rangesOf (ms : List Marker) (r : Rng) (h : r ∈ rangesOf ms) : ∃ m ∈ ms, r = (m.start, m.stop) := by
  obtain ⟨m, hm, rfl⟩ := List.mem_map.mp h
  exact ⟨m, hm, rfl⟩

theorem rangesOf_bounds (ms : List Marker) (lo hi : Nat) (h : MSorted ms lo hi) :
    ∀ r ∈ rangesOf ms, lo ≤ r.1 ∧ r.1 < r.2 ∧ r.2 ≤ hi := by
  intro r hr
  obtain ⟨m, hm, rfl⟩ := mem_rangesOf ms r hr
  exact MSorted_bounds ms lo hi h m hm

theorem mergeMarkers_ranges_append (a b : List RTree) :
    rangesOf (mergeMarkers (a ++ b) []) = rangesOf (mergeMarkers a []) ++ rangesOf (mergeMarkers b []) := by
  have happ : ∀ acc, mergeMarkers (a ++ b) acc = mergeMarkers b (mergeMarkers a acc) := by
    induction a with
    | nil => intro acc; rfl
    | cons t ts ih => intro acc; exact ih _
  rw [happ, mergeMarkers_acc, rangesOf_append, rangesOf_map _ (shift_ends _)]

theorem mergeMarkers_single (t : RTree) : mergeMarkers [t] [] = mergeTree t [] := rfl

theorem mergeChild_untouched (cm : List Marker) (m : Rng)
    (h : ∀ c ∈ cm, ¬ (m.1 ≤ c.start ∧ c.start < m.2) ∧ ¬ (m.1 ≤ c.stop ∧ c.stop < m.2)) :
    mergeChildMarkers cm m = (0, m) := by
  cases cm with
  | nil => rfl
  | cons c cs =>
    rw [mergeChildMarkers_cons, if_neg]
    exact not_or.mpr (h c List.mem_cons_self)

theorem mergeTree_unwrap_clean (h t : Rng) (ch : List RTree) (hlt : h.2 < t.1)
    (hcm : ∀ c ∈ mergeMarkers ch [], h.2 ≤ c.start ∧ c.start < c.stop ∧ c.stop < t.1) :
    rangesOf (mergeTree (.node h (some t) ch) []) = [h] ++ rangesOf (mergeMarkers ch []) ++ [t] := by
  have e1 : mergeChildMarkers (mergeMarkers ch []) h = (0, h) :=
    mergeChild_untouched _ _ fun c hc => by have := hcm c hc; omega
  have e2 : mergeChildMarkers (mergeMarkers ch []).reverse t = (0, t) :=
    mergeChild_untouched _ _ fun c hc => by have := hcm c (List.mem_reverse.mp hc); omega
  rw [mergeTree_unwrap_eq, e1, List.nil_append]
  simp only [List.drop_zero]
  rw [e2]
  simp only [unwrapMarkers, if_neg (Nat.not_le.mpr hlt), Nat.sub_zero, List.drop_zero, List.take_length,
    rangesOf_append, rangesOf_map _ (rebase_ends _ _ _)]
  rfl

def InIv (a c : Nat) (x : Nat) : Prop := a ≤ x ∧ x ≤ c

theorem tagEnds_hull (b : Bytes) (st en : Token) (lo hi a c : Nat)
    (g : lo ≤ st.bstart ∧ st.bstart < st.bstop ∧ st.bstop ≤ en.bstart ∧ en.bstart < en.bstop ∧ en.bstop ≤ hi)
    (hlen : hi ≤ b.length) (he : a ≤ st.bstart ∧ en.bstop ≤ c) : TagEnds (InIv a c) b st en := by
  obtain ⟨g1, g2, g3, g4, g5⟩ := g
  have hc := Nat.le_trans (Nat.le_of_lt g4) he.2
  have hsc := Nat.le_trans (Nat.le_of_lt g2) (Nat.le_trans g3 hc)
  refine ⟨Nat.zero_lt_of_lt g2, Nat.le_trans (Nat.le_of_lt g4) (Nat.le_trans g5 hlen), ⟨he.1, hsc⟩,
    ⟨Nat.le_trans he.1 (Nat.le_trans (Nat.le_of_lt g2) (Nat.le_trans g3 (Nat.le_of_lt g4))), he.2⟩, fun h t hu => ?_⟩
  obtain ⟨_, q2, q3, q4, _⟩ := unwrapParts_geo b st en h t hu
  have ha := Nat.le_trans he.1 (Nat.le_of_lt (Nat.lt_trans g2 q2))
  have hc' := Nat.le_trans (Nat.le_of_lt q4) hc
  exact ⟨⟨ha, Nat.le_trans (Nat.le_of_lt q3) hc'⟩, ⟨Nat.le_trans ha (Nat.le_of_lt q3), hc'⟩⟩

theorem selTree_hull (sel : Element → Bool) (b : Bytes) (lo hi a c : Nat) (hlen : hi ≤ b.length) :
    (∀ p, BSpan (flattenPart p) lo hi → (∀ e ∈ elementsOfPart p, a ≤ e.2.1.bstart ∧ e.2.2.bstop ≤ c) →
      RAll (InIv a c) (selTreePart sel b p)) ∧
    (∀ ps, BSpan (flattenParts ps) lo hi → (∀ e ∈ elementsOf ps, a ≤ e.2.1.bstart ∧ e.2.2.bstop ≤ c) →
      RAll (InIv a c) (selTree sel b ps)) :=
  ⟨fun p hs he => (selTree_RAll _ sel b).1 p fun e hm =>
      tagEnds_hull b e.2.1 e.2.2 lo hi a c (BSpan_elements.1 p lo hi hs e hm) hlen (he e hm),
    fun ps hs he => (selTree_RAll _ sel b).2 ps fun e hm =>
      tagEnds_hull b e.2.1 e.2.2 lo hi a c (BSpan_elements.2 ps lo hi hs e hm) hlen (he e hm)⟩

theorem collectPart_hull (cfg : Cfg) (b : Bytes) (all : Bool) : ∀ (p : Part) (lo hi : Nat),
    BSpan (flattenPart p) lo hi → hi ≤ b.length → ∀ (a c : Nat),
    (∀ e ∈ elementsOfPart p, a ≤ e.2.1.bstart ∧ e.2.2.bstop ≤ c) →
    RAll (InIv a c) (collectPart cfg b all p).1 ∧ RAll (InIv a c) (collectPart cfg b all p).2 := by
  intro p lo hi hs hlen a c he
  rw [(collect_eq_selTree cfg b all).1]
  exact ⟨(selTree_hull _ b lo hi a c hlen).1 p hs he, (selTree_hull _ b lo hi a c hlen).1 p hs he⟩

theorem selTree_inner (sel : Element → Bool) (b : Bytes) (ch : List Part) (lo hi : Nat)
    (hs : BSpan (flattenParts ch) lo hi) (hlen : hi ≤ b.length) (a c : Nat)
    (he : ∀ e ∈ elementsOf ch, a ≤ e.2.1.bstart ∧ e.2.2.bstop < c) :
    ∀ m ∈ mergeMarkers (selTree sel b ch) [], a ≤ m.start ∧ m.start < m.stop ∧ m.stop < c := by
  intro m hm
  have h1 := (merge_P _).2 _ ((selTree_hull sel b lo hi a (c - 1) hlen).2 ch hs fun e hm =>
    ⟨(he e hm).1, Nat.le_sub_one_of_lt (he e hm).2⟩) m hm
  have h2 := MSorted_bounds _ lo hi (merge_spec.2 _ lo hi ((selTree_geo sel b).2 ch lo hi hs hlen)).1 m hm
  have hc : c ≠ 0 := by rintro rfl; exact Nat.not_lt_zero _ (Nat.lt_of_lt_of_le h2.2.1 h1.2.2)
  exact ⟨h1.1.1, h2.2.1, Nat.lt_of_le_of_lt h1.2.2 (Nat.sub_one_lt hc)⟩

mutual
/-- no tag stands on a wrapper line: the tags of everything inside an unwrappable unwrap-block lie strictly between
    its opening part and its closing part -/
def WrapFree (b : Bytes) : List Part → Prop
  | [] => True
  | p :: ps => WrapFreePart b p ∧ WrapFree b ps
def WrapFreePart (b : Bytes) : Part → Prop
  | .text _ => True
  | .element el st en ch =>
    (∀ h t, extentOf b el st en = [h, t] → ∀ e ∈ elementsOf ch, h.2 ≤ e.2.1.bstart ∧ e.2.2.bstop < t.1) ∧
    WrapFree b ch
end

theorem wrapFreeB_sound_aux (b : Bytes) :
    (∀ p, wrapFreePartB b p = true → WrapFreePart b p) ∧ (∀ ps, wrapFreeB b ps = true → WrapFree b ps) := by
  apply part_parts_induction
  · intro t _; trivial
  · intro el st en ch ih h
    simp only [wrapFreePartB, Bool.and_eq_true] at h
    refine ⟨fun hh tt hext e he => ?_, ih h.2⟩
    have h1 := h.1
    rw [hext] at h1
    simp only [List.all_eq_true, Bool.and_eq_true, decide_eq_true_eq] at h1
    exact h1 e he
  · intro _; trivial
  · intro p ps hp hps h
    simp only [wrapFreeB, Bool.and_eq_true] at h
    exact ⟨hp h.1, hps h.2⟩

theorem wrapFreeB_sound (b : Bytes) : ∀ (parts : List Part), wrapFreeB b parts = true → WrapFree b parts :=
  (wrapFreeB_sound_aux b).2

theorem wrapFreePartB_sound (b : Bytes) : ∀ (p : Part), wrapFreePartB b p = true → WrapFreePart b p :=
  (wrapFreeB_sound_aux b).1

theorem selTree_exact (sel : Element → Bool) (b : Bytes) :
    (∀ p lo hi, BSpan (flattenPart p) lo hi → hi ≤ b.length → WrapFreePart b p →
      rangesOf (mergeMarkers (selTreePart sel b p) []) = refRegionsPart sel b p) ∧
    (∀ ps lo hi, BSpan (flattenParts ps) lo hi → hi ≤ b.length → WrapFree b ps →
      rangesOf (mergeMarkers (selTree sel b ps) []) = refRegions sel b ps) := by
  apply part_parts_induction
  · intro t lo hi _ _ _; rfl
  · intro el st en ch ih lo hi hs hlen hw
    obtain ⟨hst, hst2, hmid, hch, hen2, hen3, hlen'⟩ := BSpan_element el st en ch lo hi _ hs hlen
    obtain ⟨hwrap, hwch⟩ := hw
    have ihc := ih st.bstop en.bstart hch hlen' hwch
    simp only [refRegionsPart]
    rcases selTreePart_cases sel b el st en ch hst2 hlen' with
      ⟨he, hx⟩ | ⟨hs, hx, he⟩ | ⟨hs, e, s, _, q3, _, _, _, hx, he⟩
    · rw [he, ihc]
      cases hs : sel el with
      | false => rfl
      | true => rw [hx hs]; rfl
    · have hcm := (merge_spec.2 _ _ _ ((selTree_geo sel b).2 ch st.bstop en.bstart hch hlen')).1
      rw [he, hs, if_pos rfl, hx, mergeMarkers_single,
        mergeTree_default _ _ [] (MSorted_widen _ _ _ _ _ hcm (Nat.le_of_lt hst2) (Nat.le_of_lt hen2))]
      rfl
    · rw [he, hs, if_pos rfl, hx, mergeMarkers_single, mergeTree_unwrap_clean _ _ _ q3
        (selTree_inner sel b ch st.bstop en.bstart hch hlen' e s (hwrap _ _ hx)), ihc]
  · intro lo hi _ _ _; rfl
  · intro p ps hp hps lo hi hs hlen hw
    obtain ⟨mid, hs1, hs2, hmid⟩ := BSpan_parts_cons p ps lo hi _ hs hlen
    simp only [selTree, refRegions]
    rw [mergeMarkers_ranges_append, hp lo mid hs1 hmid hw.1, hps mid hi hs2 hlen hw.2]

theorem collect_exact (cfg : Cfg) (b : Bytes) : ∀ (parts : List Part) (lo hi : Nat),
    BSpan (flattenParts parts) lo hi → hi ≤ b.length → WrapFree b parts →
    rangesOf (mergeMarkers (collect cfg b true parts).1 []) = refRegions (conditionHolds cfg) b parts ∧
    rangesOf (mergeMarkers (collect cfg b true parts).2 []) = refRegions (conditionPending cfg) b parts := by
  intro parts lo hi hs hlen hw
  rw [(collect_eq_selTree cfg b true).2]
  exact ⟨(selTree_exact _ b).2 parts lo hi hs hlen hw, (selTree_exact _ b).2 parts lo hi hs hlen hw⟩

theorem collectPart_exact (cfg : Cfg) (b : Bytes) : ∀ (p : Part) (lo hi : Nat),
    BSpan (flattenPart p) lo hi → hi ≤ b.length → WrapFreePart b p →
    rangesOf (mergeMarkers (collectPart cfg b true p).1 []) = refRegionsPart (conditionHolds cfg) b p ∧
    rangesOf (mergeMarkers (collectPart cfg b true p).2 []) = refRegionsPart (conditionPending cfg) b p := by
  intro p lo hi hs hlen hw
  rw [(collect_eq_selTree cfg b true).1]
  exact ⟨(selTree_exact _ b).1 p lo hi hs hlen hw, (selTree_exact _ b).1 p lo hi hs hlen hw⟩

/-- the regions of a source: what `list` shows, and the Pending regions `list_all` merges into them -/
theorem source_regions_exact (src ds de : List Char) (cfg : Cfg) (hde : de ≠ [])
    (hw : WrapFree (bytesOf src) (parseSource src ds de)) :
    rangesOf (buildRemoveMarker cfg (bytesOf src) (parseSource src ds de)) =
      refRegions (conditionHolds cfg) (bytesOf src) (parseSource src ds de) ∧
    rangesOf (mergeMarkers (collect cfg (bytesOf src) true (parseSource src ds de)).2 []) =
      refRegions (conditionPending cfg) (bytesOf src) (parseSource src ds de) := by
  have h := collect_exact cfg (bytesOf src) _ 0 (blen src) (parseSource_span src ds de hde)
    (Nat.le_of_eq (bytesOf_length src).symm) hw
  rw [collect_ready_indep] at h
  exact h

end Chiritori
