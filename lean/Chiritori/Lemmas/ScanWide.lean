import Chiritori.Lemmas.ScanTail
/-
  The merged output of the tokenizer on fitting pieces followed by a last stretch.  The automaton cuts a token at
  every first character of the start delimiter, and the merge pass glues the texts together again: what is invariant
  is the merged value `val` of a state, which a stretch of text extends by `addText` and a tag by one element.
-/
namespace Chiritori
open Spec

def mrg (l : SOut) : SOut := l.foldl sMergeStep []

/-- append characters to the trailing text of a merged list -/
def addText (l : SOut) (cs : List Char) : SOut := if cs = [] then l else sMergeStep l (.text, cs)

theorem mrg_snoc (l : SOut) (x : TKind × List Char) : mrg (l ++ [x]) = sMergeStep (mrg l) x := by
  simp [mrg, List.foldl_append]

theorem sMergeStep_element (l : SOut) (v : List Char) : sMergeStep l (.element, v) = l ++ [(.element, v)] := by
  unfold sMergeStep
  cases l.getLast? <;> simp

theorem sMergeStep_text_text (l : SOut) (a b : List Char) :
    sMergeStep (sMergeStep l (.text, a)) (.text, b) = sMergeStep l (.text, a ++ b) := by
  unfold sMergeStep
  cases hl : l.getLast? with
  | none => simp
  | some last =>
    by_cases hk : last.1 = .text
    · simp [hk, List.append_assoc]
    · simp [hk]

@[simp] theorem addText_nil (l : SOut) : addText l [] = l := if_pos rfl

theorem addText_of_ne (l : SOut) {cs : List Char} (h : cs ≠ []) : addText l cs = sMergeStep l (.text, cs) := if_neg h

theorem addText_addText (l : SOut) (a b : List Char) : addText (addText l a) b = addText l (a ++ b) := by
  by_cases ha : a = []
  · rw [ha, addText_nil, List.nil_append]
  · by_cases hb : b = []
    · rw [hb, addText_nil, List.append_nil]
    · rw [addText_of_ne _ ha, addText_of_ne _ hb, addText_of_ne _ (List.append_ne_nil_of_left_ne_nil ha b),
        sMergeStep_text_text]

/-- the merged value of a state whose pending characters will be emitted with kind `k` -/
def val (s : SSt) (k : TKind) : SOut := if s.pend = [] then mrg s.outs else sMergeStep (mrg s.outs) (k, s.pend)

theorem val_element (s : SSt) (hp : s.pend ≠ []) : val s .element = mrg s.outs ++ [(.element, s.pend)] := by
  rw [val, if_neg hp, sMergeStep_element]

theorem mrg_emit (outs : SOut) (st : TState) (pend : List Char) (k : TKind) :
    mrg (if pend ≠ [] then outs ++ [(k, pend)] else outs) = val ⟨outs, st, pend⟩ k := by
  by_cases hp : pend = []
  · simp [val, hp]
  · simp [val, hp, mrg_snoc]

/-- Whatever a step does - collect the character, or emit the pending characters with the kind their state gives
    them - the merged value grows by the character. -/
theorem sStep_val (ds de : List Char) (s : SSt) (c : Char) :
    val (sStep ds de s c) .text = addText (val s (bkind s.st)) [c] := by
  obtain ⟨outs, st, pend⟩ := s
  cases hg : getState c ds de st with
  | mk k st' =>
    cases k with
    | none =>
      have hst : st ≠ .dend [] := by rintro rfl; cases hg
      rw [sStep_of_none hg, bkind_of_ne hst, addText_of_ne _ (List.cons_ne_nil _ _)]
      by_cases hp : pend = []
      · simp [val, hp]
      · simp [val, hp, sMergeStep_text_text]
    | some kind =>
      have hk : kind = bkind st := by
        rcases (getState_some hg).2 with ⟨rfl, rfl⟩ | ⟨rfl, rfl⟩ <;> rfl
      rw [sStep_of_some hg, hk, addText_of_ne _ (List.cons_ne_nil _ _), ← mrg_emit outs st pend]
      simp [val]

theorem srun_noElem (ds de : List Char) : ∀ (u : List Char) (s : SSt), noElem ds de s.st u = true →
    (srun ds de s u).st ≠ .dend [] ∧ val (srun ds de s u) .text = addText (val s .text) u
  | [], s, h => by
    simp only [noElem, bne_iff_ne, ne_eq] at h
    exact ⟨h, (addText_nil _).symm⟩
  | c :: cs, s, h => by
    simp only [noElem, Bool.and_eq_true, bne_iff_ne, ne_eq] at h
    obtain ⟨i1, i2⟩ := srun_noElem ds de cs (sStep ds de s c) (by rw [sStep_st]; exact h.2)
    refine ⟨i1, ?_⟩
    rw [srun_cons, i2, sStep_val, bkind_of_ne h.1, addText_addText]
    rfl

theorem srun_quietT (ds de : List Char) : ∀ (cs : List Char) (s : SSt), textish s.st = true → quietT ds s.st cs = true →
    (srun ds de s cs).st = .text ∧ val (srun ds de s cs) .text = addText (val s .text) cs := by
  intro cs s hs hq
  refine ⟨?_, (srun_noElem ds de cs s (noElem_of_quietT ds de cs s.st hs hq)).2⟩
  induction cs generalizing s with
  | nil => exact eq_of_beq hq
  | cons c cs ih =>
    obtain ⟨h1, h2⟩ := quietT_step ds de hs hq
    rw [← sStep_st] at h1 h2
    exact ih (sStep ds de s c) h1 h2

/-- the states between pieces -/
def BoundaryOK (s : SSt) : Prop := s.st = .text ∨ (s.st = .dend [] ∧ s.pend ≠ [])

theorem sStep_st_boundary (ds de : List Char) {s : SSt} (hb : BoundaryOK s) (c : Char) :
    (sStep ds de s c).st = checkDelimiterStart c ds := by
  rw [sStep_st]
  rcases hb with h | ⟨h, _⟩ <;> rw [h]
  · exact getState_text_snd c ds de
  · rfl

theorem srun_tail_boundary (ds de : List Char) (u : List Char) (s : SSt) (hb : BoundaryOK s)
    (hq : noElem ds de .text u = true) :
    val (srun ds de s u) (bkind (srun ds de s u).st) = addText (val s (bkind s.st)) u := by
  cases u with
  | nil => exact (addText_nil _).symm
  | cons c cs =>
    simp only [noElem, Bool.and_eq_true, getState_text_snd] at hq
    obtain ⟨h1, h2⟩ := srun_noElem ds de cs (sStep ds de s c) (by rw [sStep_st_boundary ds de hb c]; exact hq.2)
    rw [srun_cons, bkind_of_ne h1, h2, sStep_val, addText_addText]
    rfl

theorem srun_text_boundary (ds de : List Char) (cs : List Char) (s : SSt) (hb : BoundaryOK s)
    (hq : quietT ds .text cs = true) :
    BoundaryOK (srun ds de s cs) ∧
      val (srun ds de s cs) (bkind (srun ds de s cs).st) = addText (val s (bkind s.st)) cs := by
  refine ⟨?_, srun_tail_boundary ds de cs s hb (noElem_of_quietT ds de cs .text rfl hq)⟩
  cases cs with
  | nil => exact hb
  | cons c cs =>
    have hst := sStep_st_boundary ds de hb c
    exact Or.inl (srun_quietT ds de cs (sStep ds de s c) (hst ▸ textish_checkDelimiterStart c ds)
      (by rw [hst]; simpa only [quietT] using hq)).1

theorem srun_tag_boundary (d0 : Char) (dr : List Char) (e0 : Char) (er : List Char) (b0 : Char) (rest : List Char)
    (s : SSt) (hb : BoundaryOK s) (hq : quietE (e0 :: er) .inDelim rest = true) :
    BoundaryOK (srun (d0 :: dr) (e0 :: er) s ((d0 :: dr) ++ (b0 :: (rest ++ (e0 :: er))))) ∧
      val (srun (d0 :: dr) (e0 :: er) s ((d0 :: dr) ++ (b0 :: (rest ++ (e0 :: er)))))
          (bkind (srun (d0 :: dr) (e0 :: er) s ((d0 :: dr) ++ (b0 :: (rest ++ (e0 :: er))))).st)
        = val s (bkind s.st) ++ [(.element, (d0 :: dr) ++ (b0 :: (rest ++ (e0 :: er))))] := by
  -- the first character of the start delimiter emits what is pending
  have hg : getState d0 (d0 :: dr) (e0 :: er) s.st = (some (bkind s.st), .dstart dr) := by
    rcases hb with h | ⟨h, _⟩ <;> rw [h]
    · exact getState_text_of_dstart _ (checkDelimiterStart_self d0 dr)
    · rw [getState_dend_nil, checkDelimiterStart_self]; rfl
  rw [List.cons_append, srun_cons, sStep_of_some hg, srun_tag _ dr e0 er _ _ b0 rest hq]
  refine ⟨Or.inr ⟨rfl, List.cons_ne_nil _ _⟩, ?_⟩
  show val _ .element = _
  rw [val_element _ (List.cons_ne_nil _ _), mrg_emit _ s.st]
  rfl

/-- what the merged output should be: texts extend the trailing text, tags are appended -/
def fwd (ds de : List Char) : SOut → List Piece → SOut
  | L, [] => L
  | L, .text s :: ps => fwd ds de (addText L s) ps
  | L, .tag b0 rest :: ps => fwd ds de (L ++ [(.element, ds ++ (b0 :: (rest ++ de)))]) ps

theorem srun_pieces_wide (d0 : Char) (dr : List Char) (e0 : Char) (er : List Char) :
    ∀ (ps : List Piece) (acc : List Char) (s0 : SSt), BoundaryOK s0 → wideOK (d0 :: dr) (e0 :: er) ps acc = true →
    BoundaryOK (srun (d0 :: dr) (e0 :: er) s0 (acc ++ renderAll (d0 :: dr) (e0 :: er) ps)) ∧
    val (srun (d0 :: dr) (e0 :: er) s0 (acc ++ renderAll (d0 :: dr) (e0 :: er) ps))
        (bkind (srun (d0 :: dr) (e0 :: er) s0 (acc ++ renderAll (d0 :: dr) (e0 :: er) ps)).st)
      = fwd (d0 :: dr) (e0 :: er) (addText (val s0 (bkind s0.st)) acc) ps
  | [], acc, s0, hb, hw => by
    simp only [wideOK, textFit, Bool.and_eq_true] at hw
    simp only [renderAll, List.append_nil, fwd]
    exact srun_text_boundary _ _ acc s0 hb hw.1
  | .text t :: ps, acc, s0, hb, hw => by
    have ih := srun_pieces_wide d0 dr e0 er ps (acc ++ t) s0 hb hw
    simp only [renderAll, Piece.render, fwd, addText_addText]
    rw [← List.append_assoc]
    exact ih
  | .tag b0 rest :: ps, acc, s0, hb, hw => by
    simp only [wideOK, textFit, bodyFit, Bool.and_eq_true] at hw
    obtain ⟨⟨⟨hq, _⟩, hqe, _⟩, hps⟩ := hw
    obtain ⟨b1, v1⟩ := srun_text_boundary (d0 :: dr) (e0 :: er) acc s0 hb hq
    obtain ⟨b2, v2⟩ := srun_tag_boundary d0 dr e0 er b0 rest _ b1 hqe
    have ih := srun_pieces_wide d0 dr e0 er ps [] _ b2 hps
    rw [List.nil_append, addText_nil, v2, v1] at ih
    simp only [renderAll, Piece.render, fwd]
    rw [srun_append, srun_append]
    exact ih

theorem srun_pieces_tail (d0 : Char) (dr : List Char) (e0 : Char) (er : List Char) (t : List Char) :
    ∀ (ps : List Piece) (acc : List Char) (s0 : SSt), BoundaryOK s0 → wideOK2 (d0 :: dr) (e0 :: er) t ps acc = true →
    val (srun (d0 :: dr) (e0 :: er) s0 (acc ++ (renderAll (d0 :: dr) (e0 :: er) ps ++ t)))
        (bkind (srun (d0 :: dr) (e0 :: er) s0 (acc ++ (renderAll (d0 :: dr) (e0 :: er) ps ++ t))).st)
      = addText (fwd (d0 :: dr) (e0 :: er) (addText (val s0 (bkind s0.st)) acc) ps) t
  | [], acc, s0, hb, hw => by
    simp only [wideOK2, tailFit, Bool.and_eq_true] at hw
    simp only [renderAll, List.nil_append, fwd, addText_addText]
    exact srun_tail_boundary _ _ (acc ++ t) s0 hb hw.1
  | .text x :: ps, acc, s0, hb, hw => by
    have ih := srun_pieces_tail d0 dr e0 er t ps (acc ++ x) s0 hb hw
    simp only [renderAll, Piece.render, fwd, addText_addText, List.append_assoc] at ih ⊢
    exact ih
  | .tag b0 rest :: ps, acc, s0, hb, hw => by
    simp only [wideOK2, textFit, bodyFit, Bool.and_eq_true] at hw
    obtain ⟨⟨⟨hq, _⟩, hqe, _⟩, hps⟩ := hw
    obtain ⟨b1, v1⟩ := srun_text_boundary (d0 :: dr) (e0 :: er) acc s0 hb hq
    obtain ⟨b2, v2⟩ := srun_tag_boundary d0 dr e0 er b0 rest _ b1 hqe
    have ih := srun_pieces_tail d0 dr e0 er t ps [] _ b2 hps
    rw [List.nil_append, addText_nil, v2, v1] at ih
    simp only [renderAll, Piece.render, fwd]
    rw [List.append_assoc (cs := t), srun_append, srun_append]
    exact ih

theorem tokenize_val (src ds de : List Char) (hde : de ≠ []) :
    (tokenize src ds de).map kv = val (srun ds de sInit src) (bkind (srun ds de sInit src).st) := by
  rw [tokenize_proj _ _ _ hde]
  show mrg (sFlush ds de src (srun ds de sInit src)) = _
  unfold sFlush
  by_cases hs : src = []
  · subst hs; rfl
  · rw [if_neg hs, mrg_snoc, flushKind_eq_bkind, val, if_neg (srun_pend_ne ds de src sInit hs)]

-- a text token at the end of `base` would absorb `s` in the merge step
theorem addText_base (base : SOut) (hb : ∀ x, base.getLast? = some x → x.1 ≠ .text) (acc s : List Char) :
    addText (base ++ (if acc ≠ [] then [(TKind.text, acc)] else [])) s
      = base ++ (if acc ++ s ≠ [] then [(TKind.text, acc ++ s)] else []) := by
  unfold addText
  by_cases hs : s = []
  · simp [hs]
  · rw [if_neg hs]
    by_cases ha : acc = []
    · simp only [ha, ne_eq, not_true_eq_false, ite_false, List.append_nil, List.nil_append, hs, not_false_eq_true, ite_true]
      unfold sMergeStep
      cases hl : base.getLast? with
      | none => rfl
      | some last =>
        have := hb last hl
        simp [this]
    · have hne : acc ++ s ≠ [] := by simp [ha]
      simp only [ha, ne_eq, not_false_eq_true, ite_true, hne]
      unfold sMergeStep
      simp

theorem fwd_tnorm_tail (ds de t : List Char) : ∀ (ps : List Piece) (base : SOut) (acc : List Char),
    (∀ x, base.getLast? = some x → x.1 ≠ .text) →
    addText (fwd ds de (base ++ (if acc ≠ [] then [(TKind.text, acc)] else [])) ps) t = base ++ tnorm ds de t ps acc
  | [], base, acc, hb => addText_base base hb acc t
  | .text s :: ps, base, acc, hb => by
    simp only [fwd, tnorm]
    rw [addText_base base hb acc s]
    exact fwd_tnorm_tail ds de t ps base (acc ++ s) hb
  | .tag b0 rest :: ps, base, acc, hb => by
    simp only [fwd, tnorm]
    have := fwd_tnorm_tail ds de t ps (base ++ (if acc ≠ [] then [(TKind.text, acc)] else []) ++ [(.element, ds ++ (b0 :: (rest ++ de)))]) []
      (by intro x hx; simp at hx; rw [← hx]; simp)
    simp only [ne_eq, not_true_eq_false, ite_false, List.append_nil] at this
    rw [this]
    simp [List.append_assoc]

theorem fwd_tnorm (ds de : List Char) : ∀ (ps : List Piece) (base : SOut) (acc : List Char),
    (∀ x, base.getLast? = some x → x.1 ≠ .text) →
    fwd ds de (base ++ (if acc ≠ [] then [(TKind.text, acc)] else [])) ps = base ++ tnorm ds de [] ps acc := by
  intro ps base acc hb
  rw [← fwd_tnorm_tail ds de [] ps base acc hb, addText_nil]

theorem tokenize_wide_tail (d0 : Char) (dr : List Char) (e0 : Char) (er : List Char) (ps : List Piece) (t : List Char)
    (hw : wideOK2 (d0 :: dr) (e0 :: er) t ps [] = true) :
    (tokenize (renderAll (d0 :: dr) (e0 :: er) ps ++ t) (d0 :: dr) (e0 :: er)).map kv
      = tnorm (d0 :: dr) (e0 :: er) t ps [] := by
  rw [tokenize_val _ _ _ (List.cons_ne_nil _ _)]
  exact (srun_pieces_tail d0 dr e0 er t ps [] sInit (Or.inl rfl) hw).trans
    (fwd_tnorm_tail (d0 :: dr) (e0 :: er) t ps [] [] nofun)

end Chiritori
