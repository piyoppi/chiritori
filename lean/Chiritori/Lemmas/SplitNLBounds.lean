import Chiritori.Lemmas.SplitNL
/-
  Every line break of a text token is a token of its own in the finer chain; so a set of ranges all of whose ends are
  token boundaries of the chain or stand directly in front of / behind such a line break covers the tokens of the finer
  chain wholly or not at all.
-/
namespace Chiritori
open Spec

theorem split_at_lead (v : List Char) (k : Nat) (c : Char) (h : (bytesOf v)[k]? = some (.lead c)) :
    ∃ pre post, v = pre ++ c :: post ∧ blen pre = k := by
  have hk := lt_of_getElem?_some _ _ _ h
  obtain ⟨pre, post, rfl, hl, _, hd⟩ := split_at_boundary v k (by simp at hk; omega) (boundary_after_lead v k c h)
  rw [show k = k + 0 from rfl, ← List.getElem?_drop, hd] at h
  cases post with
  | nil => simp at h
  | cons c' post =>
    simp only [bytesOf_cons, charBytes, List.cons_append, List.getElem?_cons_zero, Option.some.injEq,
      ABy.lead.injEq] at h
    exact ⟨pre, post, by rw [h], hl⟩

theorem nlRuns_nl_token (v : List Char) (s bs k : Nat) (hb : (bytesOf v)[k]? = some NL) :
    ∃ u ∈ mkToks .text (nlRuns v []) s bs, u.bstart = bs + k ∧ u.bstop = bs + k + 1 := by
  obtain ⟨pre, post, rfl, rfl⟩ := split_at_lead v k '\n' hb
  rw [nlRuns_append_nl, mkToks_append, (nlRuns_spec pre [] (by simp)).1]
  exact ⟨_, List.mem_append_right _ (List.mem_cons_self ..), rfl, rfl⟩

theorem splitToks_nl_token : ∀ (T : List Token) (s bs k : Nat), ChainFrom T s bs →
    (∀ t ∈ T, t.kind = .element → ∀ c ∈ t.value, c ≠ '\n') →
    (bytesOf (flat T))[k]? = some NL →
    ∃ u ∈ splitToks T, u.bstart = bs + k ∧ u.bstop = bs + k + 1 ∧ u.kind = .text := by
  intro T s bs k hc htag hb
  have hk := lt_of_getElem?_some _ _ _ hb
  rw [bytesOf_length] at hk
  obtain ⟨pre, t, post, rfl, h1, h2, h3⟩ := chain_cover T s bs hc (bs + k) (by omega) (by omega)
  obtain ⟨_, _, _, _, _, hlen, _⟩ := (chainFrom_append pre (t :: post) s bs).mp hc
  obtain ⟨j, rfl⟩ := Nat.exists_eq_add_of_le (show blen (flat pre) ≤ k by omega)
  have hj : j < blen t.value := by omega
  rw [flat_append, flat_cons, bytesOf_append, bytesOf_append, List.getElem?_append_right (by simp),
    bytesOf_length, Nat.add_sub_cancel_left, List.getElem?_append_left (by rwa [bytesOf_length])] at hb
  cases hkind : t.kind with
  | element => exact absurd rfl (htag t (by simp) hkind '\n' ((lead_mem_bytesOf_iff _ _).mp (List.mem_of_getElem? hb)))
  | text =>
    obtain ⟨u, hu, hu1, hu2⟩ := nlRuns_nl_token t.value t.start t.bstart j hb
    exact ⟨u, (mem_splitToks u _).mpr ⟨t, by simp, splitTok_text hkind ▸ hu⟩, by rw [hu1, h3, Nat.add_assoc],
      by rw [hu2, h3, Nat.add_assoc bs], (mkToks_mem .text _ _ _ u hu).1⟩

def IsBnd (T : List Token) (p : Nat) : Prop := (∃ u ∈ T, u.bstart = p) ∨ (∃ u ∈ T, u.bstop = p)

theorem BSpan_apart : ∀ (T : List Token) (lo hi : Nat), BSpan T lo hi → ∀ u ∈ T, ∀ v ∈ T,
    u = v ∨ u.bstop ≤ v.bstart ∨ v.bstop ≤ u.bstart
  | [], _, _, _, u, hu, _, _ => by cases hu
  | t :: ts, lo, hi, ⟨_, _, h⟩, u, hu, v, hv => by
    have hts := BSpan_mem ts _ _ h
    rcases List.mem_cons.mp hu with hu | hu <;> rcases List.mem_cons.mp hv with hv | hv
    · exact Or.inl (hu.trans hv.symm)
    · exact Or.inr (Or.inl (hu ▸ (hts v hv).1))
    · exact Or.inr (Or.inr (hv ▸ (hts u hu).1))
    · exact BSpan_apart ts _ _ h u hu v hv

theorem bnd_outside (T : List Token) (lo hi : Nat) (h : BSpan T lo hi) (u : Token) (hu : u ∈ T) (p : Nat)
    (hp : IsBnd T p) : p ≤ u.bstart ∨ u.bstop ≤ p := by
  have hpos := fun v hv => (BSpan_mem T lo hi h v hv).2.1
  have := hpos u hu
  rcases hp with ⟨v, hv, rfl⟩ | ⟨v, hv, rfl⟩ <;> have := hpos v hv <;>
    rcases BSpan_apart T lo hi h u hu v hv with rfl | h | h <;> omega

theorem wholly_of_bnds (X : List Rng) (T : List Token) (lo hi : Nat) (h : BSpan T lo hi)
    (hX : ∀ r ∈ X, IsBnd T r.1 ∧ IsBnd T r.2) : Wholly X T := by
  intro u hu i hi1 hi2
  rw [Bool.eq_iff_iff, inAny_iff, inAny_iff]
  refine exists_congr fun r => and_congr_right fun hr => ?_
  have a1 := bnd_outside T lo hi h u hu r.1 (hX r hr).1
  have a2 := bnd_outside T lo hi h u hu r.2 (hX r hr).2
  omega

theorem isBnd_splitToks_of_tag (T : List Token) (t : Token) (ht : t ∈ T) (hk : t.kind = .element) :
    IsBnd (splitToks T) t.bstart ∧ IsBnd (splitToks T) t.bstop := by
  have hm : t ∈ splitToks T := (mem_splitToks t T).mpr ⟨t, ht, by simp [splitTok_element hk]⟩
  exact ⟨Or.inl ⟨t, hm, rfl⟩, Or.inr ⟨t, hm, rfl⟩⟩

end Chiritori
