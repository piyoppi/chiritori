import Chiritori.Lemmas.Text
import Chiritori.Model.Finders
/-
  What the byte-wise finder loops return.

  The three line-break loops (`nextScan`, `prevScan`, and `indentScan` of the formatter) are one scan, `scanNL`, over the
  bytes in the order the loop visits them, with the cursor arithmetic put on top (`nextScan_eq`, `prevScan_eq`).
  `scanNL_eq_some_iff` says what that scan finds; everything about `findNextLB` and `findPrevLB` is that statement
  read in positions of the text. `scanChar`, `findNextChar` likewise.
-/
namespace Chiritori

def isNL (x : ABy) : Prop := x = .lead '\n'
instance : DecidablePred isNL := fun x => inferInstanceAs (Decidable (x = .lead '\n'))

/-- a byte the finders step over when `pause_on_char` is on: blank or continuation byte -/
def isSkipByte (x : ABy) : Prop := x = .cont ∨ x = .lead ' ' ∨ x = .lead '\t'

/-- a lead byte that is neither blank nor a line break: the scanners stop there when pausing -/
def isStopByte (x : ABy) : Prop := ∃ c, x = .lead c ∧ c ≠ ' ' ∧ c ≠ '\t' ∧ c ≠ '\n'

theorem lbCheck_found (x : ABy) : lbCheck (some x) = .found ↔ x = .lead '\n' := by
  cases x with
  | cont => simp [lbCheck]
  | lead c =>
    simp only [lbCheck]
    by_cases h1 : c = ' ' ∨ c = '\t'
    · simp [h1]; rcases h1 with h | h <;> simp [h]
    · simp only [h1, ite_false]
      by_cases h2 : c = '\n' <;> simp [h2]

theorem lbCheck_skip (x : ABy) : lbCheck (some x) = .skip ↔ isSkipByte x := by
  cases x with
  | cont => simp [lbCheck, isSkipByte]
  | lead c =>
    simp only [lbCheck, isSkipByte]
    by_cases h1 : c = ' ' ∨ c = '\t'
    · simp [h1]
    · simp only [h1, ite_false]
      by_cases h2 : c = '\n' <;> simp [h2] <;> simpa using h1

theorem lbCheck_stop (x : ABy) (h : isStopByte x) : lbCheck (some x) = .none := by
  obtain ⟨c, rfl, h1, h2, h3⟩ := h
  simp [lbCheck, h1, h2, h3]

theorem isSkipByte_ne_nl {x : ABy} (h : isSkipByte x) : x ≠ NL := by
  rcases h with rfl | rfl | rfl <;> decide

theorem isStopByte_ne_nl {x : ABy} (h : isStopByte x) : x ≠ NL := by
  obtain ⟨c, rfl, _, _, h3⟩ := h
  intro e; injection e with e; exact h3 e

theorem isStopByte_not_skip {x : ABy} (h : isStopByte x) : ¬ isSkipByte x := by
  obtain ⟨c, rfl, h1, h2, _⟩ := h
  rintro (e | e | e)
  · cases e
  · injection e with e; exact h1 e
  · injection e with e; exact h2 e

/-- The line-break loops, relative to where they start: the index of the first line break of `bs` - when pausing,
    provided that only blanks and continuation bytes stand in front of it. -/
def scanNL (pause : Bool) : Bytes → Option Nat
  | [] => none
  | x :: rest =>
    match lbCheck (some x) with
    | .skip => (scanNL pause rest).map (· + 1)
    | .found => some 0
    | .none => if pause then none else (scanNL pause rest).map (· + 1)

theorem scanNL_cons_zero (pause : Bool) (x : ABy) (rest : Bytes) : scanNL pause (x :: rest) = some 0 ↔ x = NL := by
  rw [← lbCheck_found, scanNL]
  cases lbCheck (some x) <;> simp

theorem scanNL_cons_succ (pause : Bool) (x : ABy) (rest : Bytes) (k : Nat) :
    scanNL pause (x :: rest) = some (k + 1) ↔
      (x ≠ NL ∧ (pause = true → isSkipByte x)) ∧ scanNL pause rest = some k := by
  rw [← lbCheck_skip, ne_eq, ← lbCheck_found, scanNL]
  cases lbCheck (some x) <;> cases pause <;> simp

theorem scanNL_eq_some_iff (pause : Bool) (bs : Bytes) (k : Nat) :
    scanNL pause bs = some k ↔
      bs[k]? = some NL ∧
      ∀ i, i < k → bs[i]? ≠ some NL ∧ (pause = true → ∃ x, bs[i]? = some x ∧ isSkipByte x) := by
  induction bs generalizing k with
  | nil => simp [scanNL]
  | cons x rest ih =>
    cases k with
    | zero =>
      simp only [scanNL_cons_zero, List.getElem?_cons_zero, Option.some.injEq, Nat.not_lt_zero, false_imp_iff,
        implies_true, and_true]
    | succ k =>
      rw [scanNL_cons_succ, ih, Nat.forall_lt_succ_left, and_left_comm]
      simp only [List.getElem?_cons_succ, List.getElem?_cons_zero, ne_eq, Option.some.injEq, exists_eq_left']

theorem scanNL_lt (pause : Bool) (bs : Bytes) (k : Nat) (h : scanNL pause bs = some k) :
    k < bs.length ∧ bs[k]? = some NL :=
  have hk := ((scanNL_eq_some_iff pause bs k).mp h).1
  ⟨lt_of_getElem?_some _ _ _ hk, hk⟩

theorem scanNL_take (pause : Bool) (bs : Bytes) (c k : Nat) :
    scanNL pause (bs.take c) = some k ↔ k < c ∧ scanNL pause bs = some k := by
  simp only [scanNL_eq_some_iff]
  constructor
  · rintro ⟨hk, hall⟩
    have hkc : k < c := by have := lt_of_getElem?_some _ _ _ hk; simp at this; omega
    rw [List.getElem?_take_of_lt hkc] at hk
    exact ⟨hkc, hk, fun i hi => by have := hall i hi; rwa [List.getElem?_take_of_lt (by omega)] at this⟩
  · rintro ⟨hkc, hk, hall⟩
    exact ⟨by rwa [List.getElem?_take_of_lt hkc],
      fun i hi => by rw [List.getElem?_take_of_lt (by omega)]; exact hall i hi⟩

theorem scanNL_false_eq_none (bs : Bytes) (h : scanNL false bs = none) (i : Nat) : bs[i]? ≠ some NL := by
  induction bs generalizing i with
  | nil => simp
  | cons x rest ih =>
    simp only [scanNL] at h
    cases hc : lbCheck (some x) with
    | found => rw [hc] at h; cases h
    | skip | none =>
      rw [hc] at h
      cases i with
      | zero => intro hx; rw [(lbCheck_found x).mpr (by simpa using hx)] at hc; cases hc
      | succ j => exact ih (by simpa using h) j

theorem map_succ_cursor (o : Option Nat) (c : Nat) : o.map (c + 1 + ·) = (o.map (· + 1)).map (c + ·) := by
  rw [Option.map_map]; congr 1; funext k; exact Nat.add_right_comm c 1 k

theorem nextScan_eq (pause : Bool) (bs : Bytes) (c : Nat) :
    nextScan pause bs c = (scanNL pause bs).map (c + ·) := by
  induction bs generalizing c with
  | nil => rfl
  | cons x rest ih =>
    simp only [nextScan, scanNL, ih, map_succ_cursor]
    cases lbCheck (some x) <;> cases pause <;> rfl

/-- `rev` is the reversed prefix, nearest byte first; the cursor counts down to 1, so the last byte of `rev`
    (position 0) is out of reach when `rev` is longer than `c` -/
theorem prevScan_eq (pause : Bool) (rev : Bytes) (c : Nat) :
    prevScan pause rev c = (scanNL pause (rev.take c)).map (c - ·) := by
  induction rev generalizing c with
  | nil => simp [prevScan, scanNL]
  | cons x rest ih =>
    cases c with
    | zero => rfl
    | succ c =>
      have e : (scanNL pause (rest.take c)).map (c - ·) =
          ((scanNL pause (rest.take c)).map (· + 1)).map (c + 1 - ·) := by
        rw [Option.map_map]; congr 1; funext k; exact (Nat.add_sub_add_right c 1 k).symm
      simp only [prevScan, List.take_succ_cons, scanNL, Nat.add_sub_cancel, Nat.succ_ne_zero, if_false, ih, e]
      cases lbCheck (some x) <;> cases pause <;> rfl

theorem forall_lt_add (P : Nat → Prop) (s k : Nat) :
    (∀ i, i < k → P (s + i)) ↔ ∀ i, s ≤ i → i < s + k → P i :=
  ⟨fun h i h1 h2 => by
    obtain ⟨j, rfl⟩ := Nat.exists_eq_add_of_le h1
    exact h j (Nat.lt_of_add_lt_add_left h2),
   fun h i hi => h (s + i) (Nat.le_add_right s i) (Nat.add_lt_add_left hi s)⟩

theorem rev_take_getElem? (b : Bytes) (pos k : Nat) (hle : pos ≤ b.length) (hk : k < pos) :
    (b.take pos).reverse[k]? = b[pos - 1 - k]? := by
  have hlen : (b.take pos).length = pos := by rw [List.length_take, Nat.min_eq_left hle]
  rw [List.getElem?_reverse (hlen.symm ▸ hk), hlen, List.getElem?_take_of_lt
    (Nat.lt_of_le_of_lt (Nat.sub_le _ k) (Nat.sub_one_lt (Nat.ne_of_gt (Nat.zero_lt_of_lt hk))))]

theorem scanNL_drop (pause : Bool) (b : Bytes) (pos k : Nat) :
    scanNL pause (b.drop pos) = some k ↔
      b[pos + k]? = some NL ∧
      ∀ i, pos ≤ i → i < pos + k → b[i]? ≠ some NL ∧ (pause = true → ∃ x, b[i]? = some x ∧ isSkipByte x) := by
  simp only [scanNL_eq_some_iff, List.getElem?_drop]
  rw [forall_lt_add (fun i => b[i]? ≠ some NL ∧ (pause = true → ∃ x, b[i]? = some x ∧ isSkipByte x))]

theorem forall_lt_succ_above (A : Nat → Prop) (q n : Nat) (h : q < n) :
    (∀ i, q < i → i < n + 1 → A i) ↔ A n ∧ ∀ i, q < i → i < n → A i :=
  ⟨fun H => ⟨H n h (Nat.lt_succ_self n), fun i h1 h2 => H i h1 (Nat.lt_succ_of_lt h2)⟩,
   fun ⟨Hn, H⟩ i h1 h2 => (Nat.lt_succ_iff_lt_or_eq.mp h2).elim (H i h1) (fun e => e ▸ Hn)⟩

theorem rev_take_succ (b : Bytes) (pos : Nat) (h : pos < b.length) :
    (b.take (pos + 1)).reverse = b[pos] :: (b.take pos).reverse := by
  rw [List.take_succ_eq_append_getElem h, List.reverse_append]; rfl

/-- index `k` of the reversed prefix is position `p` of `b`; a sum relates them, so that no subtraction occurs -/
theorem scanNL_rev_take (pause : Bool) (b : Bytes) (pos p k : Nat) (hle : pos ≤ b.length) (hp : p + k + 1 = pos) :
    scanNL pause (b.take pos).reverse = some k ↔
      b[p]? = some NL ∧
      ∀ i, p < i → i < pos → b[i]? ≠ some NL ∧ (pause = true → ∃ x, b[i]? = some x ∧ isSkipByte x) := by
  induction pos generalizing k with
  | zero => omega
  | succ pos ih =>
    have hx : b[pos]? = some b[pos] := List.getElem?_eq_getElem hle
    rw [rev_take_succ b pos hle]
    cases k with
    | zero =>
      obtain rfl : p = pos := Nat.succ.inj hp
      rw [scanNL_cons_zero, hx, Option.some.injEq]
      exact ⟨fun h => ⟨h, fun i h1 h2 => absurd h1 (Nat.not_lt_of_le (Nat.le_of_lt_succ h2))⟩, fun h => h.1⟩
    | succ k =>
      have hp' : p + k + 1 = pos := Nat.succ.inj hp
      rw [scanNL_cons_succ, ih k (Nat.le_of_lt hle) hp', forall_lt_succ_above _ _ _ (hp' ▸ Nat.lt_succ_of_le (Nat.le_add_right p k)), hx]
      simp only [ne_eq, Option.some.injEq, exists_eq_left']
      exact and_left_comm

theorem findNextLB_eq (b : Bytes) (pos : Nat) (pause : Bool) :
    findNextLB b pos pause = if pos = 0 then none else (scanNL pause (b.drop pos)).map (pos + ·) := by
  unfold findNextLB
  by_cases h0 : pos = 0
  · simp [h0]
  · by_cases hl : pos ≥ b.length
    · simp [h0, hl, List.drop_of_length_le hl, scanNL]
    · rw [if_neg (by omega), if_neg h0, nextScan_eq]

/-- `find_next_line_break_pos` returns the first line break at or behind `pos`, provided (when pausing) that only
    blanks and continuation bytes precede it; from position 0 it finds nothing -/
theorem findNextLB_eq_some_iff (b : Bytes) (pos p : Nat) (pause : Bool) :
    findNextLB b pos pause = some p ↔
      0 < pos ∧ pos ≤ p ∧ b[p]? = some NL ∧
      ∀ i, pos ≤ i → i < p → b[i]? ≠ some NL ∧ (pause = true → ∃ x, b[i]? = some x ∧ isSkipByte x) := by
  rw [findNextLB_eq]
  by_cases h0 : pos = 0
  · simp [h0]
  · rw [if_neg h0, Option.map_eq_some_iff]
    simp only [scanNL_drop]
    constructor
    · rintro ⟨k, h, rfl⟩
      exact ⟨Nat.pos_of_ne_zero h0, Nat.le_add_right pos k, h⟩
    · rintro ⟨_, hle, h⟩
      obtain ⟨k, rfl⟩ := Nat.exists_eq_add_of_le hle
      exact ⟨k, h, rfl⟩

theorem findNextLB_some (b : Bytes) (pos p : Nat) (pause : Bool) (h : findNextLB b pos pause = some p) :
    0 < pos ∧ pos ≤ p ∧ p < b.length ∧ b[p]? = some (.lead '\n') ∧
    (∀ i, pos ≤ i → i < p → b[i]? ≠ some (.lead '\n')) ∧
    (pause = true → ∀ i, pos ≤ i → i < p → ∃ x, b[i]? = some x ∧ isSkipByte x) :=
  have ⟨h0, h1, hp, hall⟩ := (findNextLB_eq_some_iff b pos p pause).mp h
  ⟨h0, h1, lt_of_getElem?_some _ _ _ hp, hp, fun i a c => (hall i a c).1, fun hp i a c => (hall i a c).2 hp⟩

theorem findNextLB_none_false (b : Bytes) (pos : Nat) (hpos : 0 < pos) (h : findNextLB b pos false = none) :
    ∀ i, pos ≤ i → b[i]? ≠ some (.lead '\n') := by
  rw [findNextLB_eq, if_neg (Nat.ne_of_gt hpos), Option.map_eq_none_iff] at h
  intro i hi
  obtain ⟨k, rfl⟩ := Nat.exists_eq_add_of_le hi
  have := scanNL_false_eq_none _ h k
  rwa [List.getElem?_drop] at this

theorem findNextLB_false_le (b : Bytes) (pos x : Nat) (h0 : 0 < pos) (hx : pos ≤ x) (hnl : b[x]? = some NL) :
    ∃ p, findNextLB b pos false = some p ∧ p ≤ x := by
  cases h : findNextLB b pos false with
  | none => exact absurd hnl (findNextLB_none_false b pos h0 h x hx)
  | some p =>
    refine ⟨p, rfl, Nat.le_of_not_lt fun hlt => ?_⟩
    exact ((findNextLB_eq_some_iff b pos p false).mp h).2.2.2 x hx hlt |>.1 hnl

theorem findPrevLB_eq (b : Bytes) (pos : Nat) (pause : Bool) (hle : pos ≤ b.length) :
    findPrevLB b pos pause = (scanNL pause ((b.take pos).reverse.take (pos - 1))).map (pos - 1 - ·) := by
  unfold findPrevLB
  by_cases h0 : pos = 0
  · simp [h0, scanNL]
  · rw [if_neg h0, if_neg (by omega), prevScan_eq]

/-- `find_prev_line_break_pos` returns the last line break in front of `pos`, provided (when pausing) that only blanks
    and continuation bytes stand between it and `pos`; it never looks at position 0 -/
theorem findPrevLB_eq_some_iff (b : Bytes) (pos p : Nat) (pause : Bool) :
    findPrevLB b pos pause = some p ↔
      0 < p ∧ p < pos ∧ pos ≤ b.length ∧ b[p]? = some NL ∧
      ∀ i, p < i → i < pos → b[i]? ≠ some NL ∧ (pause = true → ∃ x, b[i]? = some x ∧ isSkipByte x) := by
  by_cases hle : pos ≤ b.length
  · rw [findPrevLB_eq b pos pause hle, Option.map_eq_some_iff]
    simp only [scanNL_take]
    constructor
    · rintro ⟨k, ⟨hk, h⟩, rfl⟩
      have h1 : 1 < pos := Nat.lt_of_sub_pos (Nat.zero_lt_of_lt hk)
      exact ⟨Nat.sub_pos_of_lt hk, Nat.lt_of_le_of_lt (Nat.sub_le _ k) (Nat.sub_one_lt_of_lt h1), hle,
        (scanNL_rev_take pause b pos _ k hle
          (by rw [Nat.sub_add_cancel (Nat.le_of_lt hk), Nat.sub_add_cancel (Nat.le_of_lt h1)])).mp h⟩
    · rintro ⟨h0, hlt, _, h⟩
      obtain ⟨k, rfl⟩ := Nat.exists_eq_add_of_lt hlt
      refine ⟨k, ⟨?_, (scanNL_rev_take pause b _ p k hle rfl).mpr h⟩, ?_⟩
      · rw [Nat.add_sub_cancel]; exact Nat.lt_add_of_pos_left h0
      · rw [Nat.add_sub_cancel, Nat.add_sub_cancel]
  · have hlt := Nat.lt_of_not_le hle
    rw [findPrevLB, if_neg (Nat.ne_of_gt (Nat.zero_lt_of_lt hlt)), if_pos (Nat.le_sub_one_of_lt hlt)]
    exact ⟨nofun, fun h => absurd h.2.2.1 hle⟩

theorem findPrevLB_some (b : Bytes) (pos p : Nat) (pause : Bool) (h : findPrevLB b pos pause = some p) :
    0 < p ∧ p < pos ∧ pos ≤ b.length ∧ b[p]? = some (.lead '\n') ∧
    (∀ i, p < i → i < pos → b[i]? ≠ some (.lead '\n')) ∧
    (pause = true → ∀ i, p < i → i < pos → ∃ x, b[i]? = some x ∧ isSkipByte x) :=
  have ⟨h0, h1, hle, hp, hall⟩ := (findPrevLB_eq_some_iff b pos p pause).mp h
  ⟨h0, h1, hle, hp, fun i a c => (hall i a c).1, fun hp i a c => (hall i a c).2 hp⟩

theorem findPrevLB_none_false (b : Bytes) (pos : Nat) (hle : pos ≤ b.length) (h : findPrevLB b pos false = none) :
    ∀ i : Nat, 0 < i → i < pos → b[i]? ≠ some NL := by
  rw [findPrevLB_eq b pos false hle, Option.map_eq_none_iff] at h
  intro i hi0 hi
  have hi' : i ≤ pos - 1 := Nat.le_sub_one_of_lt hi
  have hk : pos - 1 - i < pos - 1 := Nat.sub_lt_self hi0 hi'
  have := scanNL_false_eq_none _ h (pos - 1 - i)
  rwa [List.getElem?_take_of_lt hk, rev_take_getElem? b pos _ hle (Nat.lt_of_lt_of_le hk (Nat.sub_le _ _)),
    Nat.sub_sub_self hi'] at this

theorem findPrevLB_false_ge (b : Bytes) (pos z : Nat) (hle : pos ≤ b.length) (h0 : 0 < z) (hz : z < pos)
    (hnl : b[z]? = some NL) : ∃ q, findPrevLB b pos false = some q ∧ z ≤ q := by
  cases h : findPrevLB b pos false with
  | none => exact absurd hnl (findPrevLB_none_false b pos hle h z h0 hz)
  | some q =>
    refine ⟨q, rfl, Nat.le_of_not_lt fun hlt => ?_⟩
    exact ((findPrevLB_eq_some_iff b pos q false).mp h).2.2.2.2 z hlt hz |>.1 hnl

/-- `char_pos_finder::check` never gives up: it steps over blanks and continuation bytes and stops at anything else -/
theorem chCheck_cases (x : ABy) :
    chCheck (some x) = .skip ∧ isSkipByte x ∨ chCheck (some x) = .found ∧ ¬ isSkipByte x := by
  cases x with
  | cont => simp [chCheck, isSkipByte]
  | lead c => by_cases h : c = ' ' ∨ c = '\t' <;> simp [chCheck, isSkipByte, h]

/-- `charScan` relative to where it starts: the index of the first byte that is neither blank nor continuation byte -/
def scanChar : Bytes → Option Nat
  | [] => none
  | x :: rest =>
    match chCheck (some x) with
    | .skip => (scanChar rest).map (· + 1)
    | .found => some 0
    | .none => none

theorem scanChar_cons_zero (x : ABy) (rest : Bytes) : scanChar (x :: rest) = some 0 ↔ ¬ isSkipByte x := by
  rcases chCheck_cases x with ⟨h, hs⟩ | ⟨h, hs⟩ <;> simp [scanChar, h, hs]

theorem scanChar_cons_succ (x : ABy) (rest : Bytes) (k : Nat) :
    scanChar (x :: rest) = some (k + 1) ↔ isSkipByte x ∧ scanChar rest = some k := by
  rcases chCheck_cases x with ⟨h, hs⟩ | ⟨h, hs⟩ <;> simp [scanChar, h, hs]

theorem scanChar_eq_some_iff (bs : Bytes) (k : Nat) :
    scanChar bs = some k ↔
      (∃ x, bs[k]? = some x ∧ ¬ isSkipByte x) ∧ ∀ i, i < k → ∃ x, bs[i]? = some x ∧ isSkipByte x := by
  induction bs generalizing k with
  | nil => simp [scanChar]
  | cons x rest ih =>
    cases k with
    | zero =>
      simp only [scanChar_cons_zero, List.getElem?_cons_zero, Option.some.injEq, exists_eq_left', Nat.not_lt_zero,
        false_imp_iff, implies_true, and_true]
    | succ k =>
      rw [scanChar_cons_succ, ih, Nat.forall_lt_succ_left, and_left_comm]
      simp only [List.getElem?_cons_succ, List.getElem?_cons_zero, Option.some.injEq, exists_eq_left']

theorem charScan_eq (bs : Bytes) (c : Nat) : charScan bs c = (scanChar bs).map (c + ·) := by
  induction bs generalizing c with
  | nil => rfl
  | cons x rest ih =>
    simp only [charScan, scanChar, ih, map_succ_cursor]
    cases chCheck (some x) <;> rfl

theorem findNextChar_eq (b : Bytes) (pos : Nat) :
    findNextChar b pos = if pos = 0 then none else (scanChar (b.drop pos)).map (pos + ·) := by
  unfold findNextChar
  by_cases h0 : pos = 0
  · simp [h0]
  · by_cases hl : pos ≥ b.length
    · simp [h0, hl, List.drop_of_length_le hl, scanChar]
    · rw [if_neg (by omega), if_neg h0, charScan_eq]

/-- `find_next_char_pos` returns the first byte at or behind `pos` that is neither blank nor continuation byte -/
theorem findNextChar_eq_some_iff (b : Bytes) (pos p : Nat) :
    findNextChar b pos = some p ↔
      0 < pos ∧ pos ≤ p ∧ (∃ x, b[p]? = some x ∧ ¬ isSkipByte x) ∧
      ∀ i, pos ≤ i → i < p → ∃ x, b[i]? = some x ∧ isSkipByte x := by
  rw [findNextChar_eq]
  by_cases h0 : pos = 0
  · simp [h0]
  · rw [if_neg h0, Option.map_eq_some_iff]
    simp only [scanChar_eq_some_iff, List.getElem?_drop,
      forall_lt_add (fun i => ∃ x, b[i]? = some x ∧ isSkipByte x)]
    constructor
    · rintro ⟨k, h, rfl⟩
      exact ⟨Nat.pos_of_ne_zero h0, Nat.le_add_right pos k, h⟩
    · rintro ⟨_, hle, h⟩
      obtain ⟨k, rfl⟩ := Nat.exists_eq_add_of_le hle
      exact ⟨k, h, rfl⟩

theorem findNextChar_some (b : Bytes) (pos p : Nat) (h : findNextChar b pos = some p) :
    0 < pos ∧ pos ≤ p ∧ p < b.length ∧ (∃ x, b[p]? = some x ∧ ¬ isSkipByte x) ∧
    (∀ i, pos ≤ i → i < p → ∃ x, b[i]? = some x ∧ isSkipByte x) :=
  have ⟨h0, h1, hp, hall⟩ := (findNextChar_eq_some_iff b pos p).mp h
  ⟨h0, h1, let ⟨_, hx, _⟩ := hp; lt_of_getElem?_some _ _ _ hx, hp, hall⟩

theorem skip_passes {b : Bytes} {i : Nat} (pause : Bool) (h : ∃ x, b[i]? = some x ∧ isSkipByte x) :
    b[i]? ≠ some NL ∧ (pause = true → ∃ x, b[i]? = some x ∧ isSkipByte x) :=
  let ⟨_, hx, hsk⟩ := h
  ⟨fun e => isSkipByte_ne_nl hsk (Option.some.inj (hx.symm.trans e)), fun _ => h⟩

theorem stop_blocks {b : Bytes} {i : Nat} (h : b[i]? = none ∨ ∃ x, b[i]? = some x ∧ isStopByte x) :
    b[i]? ≠ some NL ∧ ¬ ∃ x, b[i]? = some x ∧ isSkipByte x := by
  rcases h with h | ⟨x, hx, hst⟩
  · rw [h]; exact ⟨nofun, nofun⟩
  · rw [hx]
    exact ⟨fun e => isStopByte_ne_nl hst (Option.some.inj e),
      fun ⟨_, hy, hsk⟩ => isStopByte_not_skip hst (Option.some.inj hy ▸ hsk)⟩

theorem findNextLB_intro (b : Bytes) (pos p : Nat) (pause : Bool) (h0 : 0 < pos) (h1 : pos ≤ p)
    (hs : ∀ i, pos ≤ i → i < p → ∃ x, b[i]? = some x ∧ isSkipByte x) (hp : b[p]? = some (.lead '\n')) :
    findNextLB b pos pause = some p :=
  (findNextLB_eq_some_iff b pos p pause).mpr ⟨h0, h1, hp, fun i a c => skip_passes pause (hs i a c)⟩

theorem findPrevLB_intro (b : Bytes) (pos p : Nat) (pause : Bool) (h0 : 0 < p) (h1 : p < pos) (h2 : pos ≤ b.length)
    (hs : ∀ i, p < i → i < pos → ∃ x, b[i]? = some x ∧ isSkipByte x) (hp : b[p]? = some (.lead '\n')) :
    findPrevLB b pos pause = some p :=
  (findPrevLB_eq_some_iff b pos p pause).mpr ⟨h0, h1, h2, hp, fun i a c => skip_passes pause (hs i a c)⟩

theorem findNextLB_pause_none (b : Bytes) (pos q : Nat) (h1 : pos ≤ q)
    (hs : ∀ i, pos ≤ i → i < q → ∃ x, b[i]? = some x ∧ isSkipByte x)
    (hq : b[q]? = none ∨ ∃ x, b[q]? = some x ∧ isStopByte x) :
    findNextLB b pos true = none := by
  cases h : findNextLB b pos true with
  | none => rfl
  | some p =>
    obtain ⟨_, hle, hp, hall⟩ := (findNextLB_eq_some_iff b pos p true).mp h
    -- the line break found lies in the run, at `q`, or behind `q` with `q` stepped over: each is impossible
    rcases Nat.lt_trichotomy p q with hlt | rfl | hgt
    · exact absurd hp (skip_passes true (hs p hle hlt)).1
    · exact absurd hp (stop_blocks hq).1
    · exact absurd ((hall q h1 hgt).2 rfl) (stop_blocks hq).2

/-- `q = 0` stops the backward finder like a stop byte: it never examines position 0 -/
theorem findPrevLB_pause_none (b : Bytes) (pos q : Nat) (h1 : q < pos) (_ : pos ≤ b.length)
    (hs : ∀ i, q < i → i < pos → ∃ x, b[i]? = some x ∧ isSkipByte x)
    (hq : q = 0 ∨ ∃ x, b[q]? = some x ∧ isStopByte x) :
    findPrevLB b pos true = none := by
  cases h : findPrevLB b pos true with
  | none => rfl
  | some p =>
    obtain ⟨h0, hlt, _, hp, hall⟩ := (findPrevLB_eq_some_iff b pos p true).mp h
    rcases Nat.lt_or_ge q p with hqp | hpq
    · exact absurd hp (skip_passes true (hs p hqp hlt)).1
    · have hq := stop_blocks (Or.inr (hq.resolve_left (Nat.ne_of_gt (Nat.lt_of_lt_of_le h0 hpq))))
      rcases Nat.eq_or_lt_of_le hpq with rfl | hpq
      · exact absurd hp hq.1
      · exact absurd ((hall q hpq h1).2 rfl) hq.2

end Chiritori
