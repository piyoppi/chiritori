import Chiritori.Lemmas.ScanTail
/-
  The textbook scan on fitting pieces followed by a last stretch: it produces the normal form `tnorm`.
-/
namespace Chiritori
open Spec

theorem isPrefixOf_append_of_le (pat P Q : List Char) (h : pat.length ≤ P.length) :
    pat.isPrefixOf (P ++ Q) = pat.isPrefixOf P := by
  induction pat generalizing P with
  | nil => simp
  | cons a as ih =>
    cases P with
    | nil => simp at h
    | cons b bs =>
      simp only [List.cons_append, List.isPrefixOf]
      rw [ih bs (by simpa using h)]

theorem findSub_cons_of_not_prefix {pat : List Char} {c : Char} {cs : List Char}
    (h : pat.isPrefixOf (c :: cs) = false) : findSub pat (c :: cs) = (findSub pat cs).map (· + 1) := by
  simp only [findSub, h, Bool.false_eq_true, ite_false]

theorem findSub_cons_eq_none {pat : List Char} {c : Char} {cs : List Char} :
    findSub pat (c :: cs) = none ↔ pat.isPrefixOf (c :: cs) = false ∧ findSub pat cs = none := by
  cases hp : pat.isPrefixOf (c :: cs) with
  | true => simp [findSub, hp]
  | false => simp [findSub_cons_of_not_prefix hp]

theorem findSub_spec (pat : List Char) : ∀ (s : List Char) (i : Nat), findSub pat s = some i →
    s = s.take i ++ (pat ++ s.drop (i + pat.length))
  | [], i, h => by
    cases pat with
    | nil => cases h; rfl
    | cons a as => cases h
  | c :: cs, i, h => by
    by_cases hp : pat.isPrefixOf (c :: cs) = true
    · simp only [findSub, hp, ite_true, Option.some.injEq] at h
      obtain ⟨t, ht⟩ := List.isPrefixOf_iff_prefix.1 hp
      rw [← h, ← ht]
      simp
    · rw [findSub_cons_of_not_prefix (Bool.eq_false_iff.2 hp)] at h
      obtain ⟨k, hk, rfl⟩ := Option.map_eq_some_iff.1 h
      rw [Nat.add_right_comm, List.take_succ_cons, List.drop_succ_cons, List.cons_append, ← findSub_spec pat cs k hk]

theorem findSub_short (pat : List Char) : ∀ (s : List Char), s.length < pat.length → findSub pat s = none
  | [], h => by
    cases pat with
    | nil => simp at h
    | cons a as => rfl
  | c :: cs, h => by
    refine findSub_cons_eq_none.2 ⟨?_, findSub_short pat cs (Nat.lt_of_succ_lt h)⟩
    refine Bool.eq_false_iff.2 fun hp => ?_
    have := (List.isPrefixOf_iff_prefix.1 hp).length_le
    omega

theorem findSub_first (pat : List Char) (hp : pat ≠ []) : ∀ (A X : List Char),
    findSub pat (A ++ pat.dropLast) = none → findSub pat (A ++ (pat ++ X)) = some A.length
  | [], X, _ => by
    cases pat with
    | nil => exact absurd rfl hp
    | cons p0 pr =>
      have : (p0 :: pr).isPrefixOf (p0 :: (pr ++ X)) = true := List.isPrefixOf_iff_prefix.2 (List.prefix_append _ X)
      simp only [List.nil_append, List.cons_append, findSub, this, ite_true, List.length_nil]
  | a :: A, X, h => by
    rw [List.cons_append] at h
    obtain ⟨hpre, hn⟩ := findSub_cons_eq_none.1 h
    -- a prefix test at `a` looks at most at `A ++ pat.dropLast`
    have e : a :: (A ++ (pat ++ X)) = (a :: (A ++ pat.dropLast)) ++ ([pat.getLast hp] ++ X) := by
      conv => lhs; rw [← List.dropLast_concat_getLast hp]
      simp
    have hlen : pat.length ≤ (a :: (A ++ pat.dropLast)).length := by
      rw [List.length_cons, List.length_append, List.length_dropLast]
      exact Nat.le_trans (Nat.le_add_of_sub_le (b := 1) (Nat.le_refl _)) (Nat.succ_le_succ (Nat.le_add_left _ _))
    rw [List.cons_append, findSub_cons_of_not_prefix (by rw [e, isPrefixOf_append_of_le pat _ _ hlen]; exact hpre),
      findSub_first pat hp A X hn]
    rfl

theorem findSub_none_left (pat : List Char) (hp : pat ≠ []) : ∀ (A B : List Char),
    findSub pat (A ++ B) = none → findSub pat A = none
  | [], _, _ => by
    cases pat with
    | nil => exact absurd rfl hp
    | cons a as => rfl
  | a :: A, B, h => by
    rw [List.cons_append] at h
    obtain ⟨hpre, hn⟩ := findSub_cons_eq_none.1 h
    refine findSub_cons_eq_none.2 ⟨Bool.eq_false_iff.2 fun hA => ?_, findSub_none_left pat hp A B hn⟩
    rw [List.isPrefixOf_iff_prefix] at hA
    rw [← Bool.not_eq_true, List.isPrefixOf_iff_prefix] at hpre
    exact hpre (hA.trans (List.prefix_append (a :: A) B))

theorem noOcc_free (p0 : Char) (pr : List Char) : ∀ (s : List Char), (∀ c ∈ s, c ≠ p0) → noOcc (p0 :: pr) s = true
  | [], _ => by
    simp only [noOcc, List.nil_append, Option.isNone_iff_eq_none]
    exact findSub_short _ _ (by simp [List.length_dropLast])
  | c :: cs, h => by
    have ih := noOcc_free p0 pr cs (fun x hx => h x (List.mem_cons_of_mem _ hx))
    simp only [noOcc, Option.isNone_iff_eq_none] at ih ⊢
    exact findSub_cons_eq_none.2 ⟨by simp [List.isPrefixOf, (h c List.mem_cons_self).symm], ih⟩

theorem tailFit_of_textFit (ds de u : List Char) (hds : ds ≠ []) (h : textFit ds u = true) : tailFit ds de u = true := by
  simp only [textFit, noOcc, Bool.and_eq_true, Option.isNone_iff_eq_none] at h
  simp only [tailFit, Bool.and_eq_true]
  refine ⟨noElem_of_quietT ds de u .text rfl h.1, ?_⟩
  unfold noTagTB
  rw [findSub_none_left ds hds u _ h.2]

namespace Props.C08

theorem wideOK2_of_wideOK (ds de : List Char) (hds : ds ≠ []) : ∀ (ps : List Piece) (acc : List Char),
    wideOK ds de ps acc = true → wideOK2 ds de [] ps acc = true
  | [], acc, hw => by
    simp only [wideOK] at hw
    simp only [wideOK2, List.append_nil]
    exact tailFit_of_textFit ds de acc hds hw
  | .text s :: ps, acc, hw => by
    simp only [wideOK] at hw
    simp only [wideOK2]
    exact wideOK2_of_wideOK ds de hds ps _ hw
  | .tag b0 rest :: ps, acc, hw => by
    simp only [wideOK, Bool.and_eq_true] at hw
    simp only [wideOK2, Bool.and_eq_true]
    exact ⟨hw.1, wideOK2_of_wideOK ds de hds ps [] hw.2⟩

end Props.C08

theorem textbook_noTag (ds de : List Char) (u : List Char) (h : noTagTB ds de u = true) (fuel : Nat) :
    textbookAux ds de fuel u [] = (if u ≠ [] then [(TKind.text, u)] else []) := by
  -- wherever the scan gives up, it emits what is left as text
  have hout : (if ([] ++ u).isEmpty then [] else [(TKind.text, [] ++ u)])
      = if u ≠ [] then [(TKind.text, u)] else [] := by
    cases u <;> rfl
  cases fuel with
  | zero => exact hout
  | succ f =>
    unfold noTagTB at h
    unfold textbookAux
    cases hf : findSub ds u with
    | none => exact hout
    | some i =>
      rw [hf] at h
      simp only at h ⊢
      cases hd : u.drop (i + ds.length) with
      | nil => exact hout
      | cons b body =>
        rw [hd] at h
        simp only [Option.isNone_iff_eq_none] at h
        simp only [h]
        exact hout

theorem renderAll_tag_append (ds de : List Char) (b0 : Char) (rest : List Char) (ps : List Piece) (t : List Char) :
    renderAll ds de (.tag b0 rest :: ps) ++ t = ds ++ b0 :: (rest ++ (de ++ (renderAll ds de ps ++ t))) := by
  simp [renderAll, Piece.render]

theorem textbookAux_tag (ds de : List Char) (hds : ds ≠ []) (hde : de ≠ []) (acc : List Char) (b0 : Char)
    (rest R : List Char) (fuel : Nat) (ha : noOcc ds acc = true) (hr : noOcc de rest = true)
    (hlen : (acc ++ (ds ++ b0 :: (rest ++ (de ++ R)))).length ≤ fuel) :
    R.length ≤ fuel - 1 ∧
    textbookAux ds de fuel (acc ++ (ds ++ b0 :: (rest ++ (de ++ R)))) []
      = (if acc ≠ [] then [(TKind.text, acc)] else []) ++ [(.element, ds ++ b0 :: (rest ++ de))]
        ++ textbookAux ds de (fuel - 1) R [] := by
  simp only [noOcc, Option.isNone_iff_eq_none] at ha hr
  have hlen' : (ds ++ b0 :: (rest ++ de)).length = ds.length + 1 + rest.length + de.length := by
    simp only [List.length_append, List.length_cons]; omega
  have htag : ds ++ b0 :: (rest ++ (de ++ R)) = (ds ++ b0 :: (rest ++ de)) ++ R := by simp
  have h2 : (acc ++ (ds ++ b0 :: (rest ++ (de ++ R)))).drop (acc.length + ds.length) = b0 :: (rest ++ (de ++ R)) := by
    rw [← List.append_assoc, List.drop_left' List.length_append]
  have h4 : (acc ++ (ds ++ b0 :: (rest ++ (de ++ R)))).take acc.length = acc := List.take_left
  have h5 : ((acc ++ (ds ++ b0 :: (rest ++ (de ++ R)))).drop acc.length).take (ds.length + 1 + rest.length + de.length)
      = ds ++ b0 :: (rest ++ de) := by rw [List.drop_left, htag, List.take_left' hlen']
  have h6 : (acc ++ (ds ++ b0 :: (rest ++ (de ++ R)))).drop (acc.length + (ds.length + 1 + rest.length + de.length))
      = R := by rw [htag, ← List.append_assoc, List.drop_left' (by rw [List.length_append, hlen'])]
  have hR : R.length < fuel := by
    rw [htag, ← List.append_assoc, List.length_append] at hlen
    exact Nat.lt_of_lt_of_le (Nat.lt_add_of_pos_left (List.length_pos_iff.2 (by simp))) hlen
  cases fuel with
  | zero => exact absurd hR (Nat.not_lt_zero _)
  | succ f =>
    refine ⟨Nat.le_of_lt_succ hR, ?_⟩
    simp only [textbookAux, findSub_first ds hds acc _ ha, h2, findSub_first de hde rest R hr, h4, h5, h6,
      List.nil_append, Nat.add_sub_cancel]
    by_cases hacc : acc = [] <;> simp [hacc]

theorem textbook_wide_tail (d0 : Char) (dr : List Char) (e0 : Char) (er : List Char) (t : List Char) :
    ∀ (ps : List Piece) (acc : List Char) (fuel : Nat), wideOK2 (d0 :: dr) (e0 :: er) t ps acc = true →
      (acc ++ (renderAll (d0 :: dr) (e0 :: er) ps ++ t)).length ≤ fuel →
      textbookAux (d0 :: dr) (e0 :: er) fuel (acc ++ (renderAll (d0 :: dr) (e0 :: er) ps ++ t)) []
        = tnorm (d0 :: dr) (e0 :: er) t ps acc
  | [], acc, fuel, hw, _ => by
    simp only [wideOK2, tailFit, Bool.and_eq_true] at hw
    exact textbook_noTag _ _ _ hw.2 fuel
  | .text s :: ps, acc, fuel, hw, hlen => by
    have := textbook_wide_tail d0 dr e0 er t ps (acc ++ s) fuel hw
    simp only [renderAll, Piece.render, tnorm, List.append_assoc] at this hlen ⊢
    exact this hlen
  | .tag b0 rest :: ps, acc, fuel, hw, hlen => by
    simp only [wideOK2, textFit, bodyFit, Bool.and_eq_true] at hw
    obtain ⟨⟨⟨_, hoa⟩, _, hob⟩, hps⟩ := hw
    rw [renderAll_tag_append] at hlen ⊢
    obtain ⟨hf, hstep⟩ := textbookAux_tag _ _ (List.cons_ne_nil _ _) (List.cons_ne_nil _ _) acc b0 rest _ fuel hoa hob hlen
    rw [hstep, ← List.nil_append (renderAll _ _ ps ++ t), textbook_wide_tail d0 dr e0 er t ps [] (fuel - 1) hps hf]
    rfl

theorem textbook_wide (d0 : Char) (dr : List Char) (e0 : Char) (er : List Char) :
    ∀ (ps : List Piece) (acc : List Char) (fuel : Nat), wideOK (d0 :: dr) (e0 :: er) ps acc = true →
      (acc ++ renderAll (d0 :: dr) (e0 :: er) ps).length ≤ fuel →
      textbookAux (d0 :: dr) (e0 :: er) fuel (acc ++ renderAll (d0 :: dr) (e0 :: er) ps) []
        = tnorm (d0 :: dr) (e0 :: er) [] ps acc := by
  intro ps acc fuel hw hlen
  have := textbook_wide_tail d0 dr e0 er [] ps acc fuel
    (Props.C08.wideOK2_of_wideOK _ _ (List.cons_ne_nil _ _) ps acc hw)
  rw [List.append_nil] at this
  exact this hlen

end Chiritori
