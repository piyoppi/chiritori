import Chiritori.Lemmas.Totality
/-
  `collect_removable_ranges(.., collect_pending_removals = true)`: the Ready tree is the one `clean` uses,
  and the Pending tree is geometrically well formed too; its merged regions cover exactly the extents of the elements
  that are registered, not skipped and whose condition does not hold (the analogue of `collect_spec`, for C17).
-/
namespace Chiritori
open Spec

theorem collect_ready_indep (cfg : Cfg) (b : Bytes) : ∀ (parts : List Part),
    (collect cfg b true parts).1 = (collect cfg b false parts).1 := by
  intro parts
  rw [(collect_eq_selTree cfg b true).2, (collect_eq_selTree cfg b false).2]

theorem collectPart_ready_indep (cfg : Cfg) (b : Bytes) : ∀ (p : Part),
    (collectPart cfg b true p).1 = (collectPart cfg b false p).1 := by
  intro p
  rw [(collect_eq_selTree cfg b true).1, (collect_eq_selTree cfg b false).1]

theorem collect_pending_geo (cfg : Cfg) (b : Bytes) : ∀ (parts : List Part) (lo hi : Nat),
    BSpan (flattenParts parts) lo hi → hi ≤ b.length → RGeo (collect cfg b true parts).2 lo hi := by
  intro parts lo hi hs hlen
  rw [(collect_eq_selTree cfg b true).2]
  exact (selTree_geo _ b).2 parts lo hi hs hlen

theorem collectPart_pending_geo (cfg : Cfg) (b : Bytes) : ∀ (p : Part) (lo hi : Nat),
    BSpan (flattenPart p) lo hi → hi ≤ b.length → RGeo (collectPart cfg b true p).2 lo hi := by
  intro p lo hi hs hlen
  rw [(collect_eq_selTree cfg b true).1]
  exact (selTree_geo _ b).1 p lo hi hs hlen

theorem collect_pending_RAll (cfg : Cfg) (s : List Char) : ∀ (parts : List Part),
    (∀ t ∈ flattenParts parts, BPos (bytesOf s) t.bstart ∧ BPos (bytesOf s) t.bstop ∧ 0 < t.bstop) →
    RAll (BPos (bytesOf s)) (collect cfg (bytesOf s) true parts).2 := by
  intro parts
  rw [(collect_eq_selTree cfg _ true).2]
  exact (selTree_BPos _ s).2 parts

theorem collectPart_pending_RAll (cfg : Cfg) (s : List Char) : ∀ (p : Part),
    (∀ t ∈ flattenPart p, BPos (bytesOf s) t.bstart ∧ BPos (bytesOf s) t.bstop ∧ 0 < t.bstop) →
    RAll (BPos (bytesOf s)) (collectPart cfg (bytesOf s) true p).2 := by
  intro p
  rw [(collect_eq_selTree cfg _ true).1]
  exact (selTree_BPos _ s).1 p

mutual
def pendExtentsOfParts (cfg : Cfg) (b : Bytes) : List Part → List Rng
  | [] => []
  | p :: ps => pendExtentsOfPart cfg b p ++ pendExtentsOfParts cfg b ps
def pendExtentsOfPart (cfg : Cfg) (b : Bytes) : Part → List Rng
  | .text _ => []
  | .element el st en ch =>
    (if conditionPending cfg el then extentOf b el st en else []) ++ pendExtentsOfParts cfg b ch
end

theorem pendingExtents_eq_aux (cfg : Cfg) (b : Bytes) :
    (∀ p, ((elementsOfPart p).flatMap fun x => if conditionPending cfg x.1 then extentOf b x.1 x.2.1 x.2.2 else [])
      = pendExtentsOfPart cfg b p) ∧
    (∀ ps, ((elementsOf ps).flatMap fun x => if conditionPending cfg x.1 then extentOf b x.1 x.2.1 x.2.2 else [])
      = pendExtentsOfParts cfg b ps) := by
  apply part_parts_induction
  · intro t; rfl
  · intro el st en ch ih
    simp only [elementsOfPart, List.flatMap_cons, pendExtentsOfPart, ih]
  · rfl
  · intro p ps hp hps
    simp only [elementsOf, List.flatMap_append, pendExtentsOfParts, hp, hps]

theorem pendingExtents_eq : ∀ (cfg : Cfg) (b : Bytes) (parts : List Part),
    pendingExtents cfg b parts = pendExtentsOfParts cfg b parts :=
  fun cfg b parts => (pendingExtents_eq_aux cfg b).2 parts

theorem pendingExtentsPart_eq : ∀ (cfg : Cfg) (b : Bytes) (p : Part),
    ((elementsOfPart p).flatMap fun x => if conditionPending cfg x.1 then extentOf b x.1 x.2.1 x.2.2 else [])
      = pendExtentsOfPart cfg b p :=
  fun cfg b p => (pendingExtents_eq_aux cfg b).1 p

theorem collect_pending_cov (cfg : Cfg) (b : Bytes) : ∀ (parts : List Part) (lo hi : Nat),
    BSpan (flattenParts parts) lo hi → hi ≤ b.length →
    ∀ i, rcov (collect cfg b true parts).2 i ↔ inAny (pendExtentsOfParts cfg b parts) i = true := by
  intro parts lo hi hs hlen
  rw [(collect_eq_selTree cfg b true).2, ← (pendingExtents_eq_aux cfg b).2]
  exact (selTree_cov _ b).2 parts lo hi hs hlen

theorem collectPart_pending_cov (cfg : Cfg) (b : Bytes) : ∀ (p : Part) (lo hi : Nat),
    BSpan (flattenPart p) lo hi → hi ≤ b.length →
    ∀ i, rcov (collectPart cfg b true p).2 i ↔ inAny (pendExtentsOfPart cfg b p) i = true := by
  intro p lo hi hs hlen
  rw [(collect_eq_selTree cfg b true).1, ← (pendingExtents_eq_aux cfg b).1]
  exact (selTree_cov _ b).1 p lo hi hs hlen

end Chiritori
