import Chiritori.Lemmas.FormatBlock
import Chiritori.Lemmas.Remove
/-
  Merging the formatter ranges and deleting them: only whitespace goes.
-/
namespace Chiritori
open Spec

theorem insertAt_perm (l : List Rng') (i : Nat) (x : Rng') : (insertAt l i x).Perm (x :: l) := by
  have := List.perm_middle (a := x) (l₁ := l.take i) (l₂ := l.drop i)
  rwa [List.take_append_drop, ← List.singleton_append, ← List.append_assoc] at this

theorem mergeRangesLoop_perm (news : List Rng') : ∀ (ranges : List Rng') (cur : Option Nat),
    (mergeRangesLoop ranges cur news).Perm (news ++ ranges) := by
  induction news with
  | nil => intro ranges _; exact .refl _
  | cons n ns ih =>
    intro ranges cur
    have step : ∀ i c', (mergeRangesLoop (insertAt ranges i n) c' ns).Perm (n :: ns ++ ranges) := fun i c' =>
      ((ih _ c').trans ((insertAt_perm ranges i n).append_left ns)).trans List.perm_middle
    simp only [mergeRangesLoop]
    split <;> exact step _ _

/-- `merge_ranges` returns an empty first list as it is, whatever the second holds -/
theorem mergeRanges_perm (ranges news : List Rng') (hne : ranges ≠ []) :
    (mergeRanges ranges news).Perm (news ++ ranges) := by
  rw [mergeRanges, if_neg (by simpa using hne)]
  exact (mergeRangesLoop_perm _ _ _).trans ((List.reverse_perm news).append_right ranges)

theorem insertByStart_perm (y : Rng') (l : List Rng') : (insertByStart y l).Perm (y :: l) := by
  induction l with
  | nil => exact .refl _
  | cons z zs ih =>
    simp only [insertByStart]
    split
    · exact .refl _
    · exact (ih.cons z).trans (.swap y z zs)

theorem sortByStart_perm (l : List Rng') : (sortByStart l).Perm l := by
  induction l with
  | nil => exact .refl _
  | cons z zs ih => exact (insertByStart_perm z _).trans (ih.cons z)

theorem mem_mergeRanges (ranges news : List Rng') (x : Rng') (h : x ∈ mergeRanges ranges news) :
    x ∈ ranges ∨ x ∈ news := by
  by_cases hne : ranges = []
  · rw [mergeRanges, if_pos (by simpa using hne)] at h
    exact Or.inl h
  · exact (List.mem_append.mp ((mergeRanges_perm ranges news hne).mem_iff.mp h)).symm

theorem mem_sortByStart (l : List Rng') (x : Rng') (h : x ∈ sortByStart l) : x ∈ l :=
  (sortByStart_perm l).mem_iff.mp h

/-- strictly separated ranges -/
def OSorted : List Rng' → Prop
  | [] => True
  | [_] => True
  | r :: r' :: rest => r.2 < r'.1 ∧ OSorted (r' :: rest)

theorem mergeOverlappedGo_spec (s : List Char) (xs : List Rng') : ∀ (cur : Rng'), RangeOK s cur →
    (∀ x ∈ xs, RangeOK s x) →
    (∀ r ∈ mergeOverlappedGo cur xs, RangeOK s r) ∧ OSorted (mergeOverlappedGo cur xs) ∧
    ∃ e rest, mergeOverlappedGo cur xs = (cur.1, e) :: rest := by
  induction xs with
  | nil => exact fun cur hc _ => ⟨fun r hr => List.mem_singleton.mp hr ▸ hc, trivial, cur.2, [], rfl⟩
  | cons x xs ih =>
    intro cur hc hxs
    have hx := hxs x List.mem_cons_self
    have hrest : ∀ y ∈ xs, RangeOK s y := fun y hy => hxs y (List.mem_cons_of_mem _ hy)
    simp only [mergeOverlappedGo]
    split
    · rename_i hov
      -- `cur` and `x` touch or overlap: between them they cover the widened range
      refine ih _ ⟨Nat.le_trans hc.le (Nat.le_max_left _ _), Nat.max_le.mpr ⟨hc.len, hx.len⟩, fun i hi1 hi2 => ?_,
        hc.b1, prop_max (P := fun e => isBoundary (bytesOf s) e = true) hc.b2 hx.b2⟩ hrest
      by_cases hlt : i < cur.2
      · exact hc.ws i hi1 hlt
      · exact hx.ws i (by omega) (by simp only at hi2; omega)
    · rename_i hno
      obtain ⟨a1, a2, e, rest, a3⟩ := ih x hx hrest
      refine ⟨fun r hr => (List.mem_cons.mp hr).elim (· ▸ hc) (a1 r), ?_, cur.2, _, rfl⟩
      rw [a3] at a2 ⊢
      exact ⟨by simp only; omega, a2⟩

theorem mergeOverlapped_spec (s : List Char) (l : List Rng') (h : ∀ x ∈ l, RangeOK s x) :
    (∀ r ∈ mergeOverlapped l, RangeOK s r) ∧ OSorted (mergeOverlapped l) := by
  cases l with
  | nil => simp [mergeOverlapped, OSorted]
  | cons r rs =>
    obtain ⟨a1, a2, _⟩ := mergeOverlappedGo_spec s rs r (h r (by simp)) (fun x hx => h x (by simp [hx]))
    exact ⟨a1, a2⟩

theorem RSorted_of_OSorted (l : List Rng') (hle : ∀ r ∈ l, r.1 ≤ r.2) (h : OSorted l) (lo : Nat)
    (hlo : ∀ r, l.head? = some r → lo ≤ r.1) : RSorted l lo := by
  induction l generalizing lo with
  | nil => trivial
  | cons r rs ih =>
    refine ⟨hlo r rfl, hle r List.mem_cons_self, ?_⟩
    cases rs with
    | nil => trivial
    | cons r' rest =>
      exact ih (fun x hx => hle x (List.mem_cons_of_mem _ hx)) h.2 r.2 fun q hq => by cases hq; exact Nat.le_of_lt h.1

theorem deleteRanges_eq_deleteAll (content : Bytes) (rs : List Rng') : deleteRanges content rs = deleteAll content rs := by
  induction rs with
  | nil => rfl
  | cons r rs ih =>
    simp only [deleteRanges, deleteAll, ih]
    cases deleteAll content rs <;> rfl

/-- "the output is the input minus some whitespace" -/
inductive WsSub : Bytes → Bytes → Prop
  | nil : WsSub [] []
  | keep (x : ABy) {ks os : Bytes} : WsSub ks os → WsSub (x :: ks) (x :: os)
  | skip (x : ABy) {ks os : Bytes} : isWs x = true → WsSub ks os → WsSub (x :: ks) os

/-- the greedy matcher may let a whitespace byte of the longer text go unmatched, and may drop one from the shorter -/
theorem wsSubseq_ws (ks : Bytes) : ∀ (x : ABy), isWs x = true →
    (∀ os, wsSubseq ks (x :: os) = true → wsSubseq ks os = true) ∧
    (∀ os, wsSubseq ks os = true → wsSubseq (x :: ks) os = true) := by
  induction ks with
  | nil => exact fun x hx => ⟨fun os h => by simp [wsSubseq] at h, fun os h => by cases os <;> simp_all [wsSubseq]⟩
  | cons k ks ih =>
    intro x hx
    have drop : ∀ os, wsSubseq (k :: ks) (x :: os) = true → wsSubseq (k :: ks) os = true := by
      intro os h
      simp only [wsSubseq] at h
      by_cases hk : k = x
      · rw [hk] at h ⊢
        exact (ih x hx).2 os (by simpa using h)
      · simp only [beq_iff_eq, hk, ite_false, Bool.and_eq_true] at h
        exact (ih k h.1).2 os ((ih x hx).1 os h.2)
    refine ⟨drop, fun os h => ?_⟩
    cases os with
    | nil => simp only [wsSubseq, Bool.and_eq_true] at h ⊢; exact ⟨hx, h⟩
    | cons o os =>
      rw [wsSubseq]
      by_cases hxo : x = o
      · rw [if_pos (by simpa using hxo)]
        exact drop os (hxo ▸ h)
      · rw [if_neg (by simpa using hxo), hx, h]; rfl

theorem wsSubseq_of_WsSub (k o : Bytes) (h : WsSub k o) : wsSubseq k o = true := by
  induction h with
  | nil => rfl
  | keep x _ ih => simp [wsSubseq, ih]
  | skip x hx _ ih => exact (wsSubseq_ws _ x hx).2 _ ih

theorem WsSub_minusFrom (b : Bytes) (off : Nat) (rs : List Rng)
    (h : ∀ k, k < b.length → inAny rs (off + k) = true → ∃ x, b[k]? = some x ∧ isWs x = true) :
    WsSub b (minusFrom b off rs) := by
  induction b generalizing off with
  | nil => exact .nil
  | cons x xs ih =>
    have ih' := ih (off + 1) fun k hk hin => by
      simpa using h (k + 1) (Nat.succ_lt_succ hk) (by rwa [← Nat.add_assoc, Nat.add_right_comm])
    rw [minusFrom_cons]
    split
    · rename_i hin
      obtain ⟨y, hy, hw⟩ := h 0 (Nat.succ_pos _) hin
      cases hy
      exact .skip x hw ih'
    · exact .keep x ih'

theorem isWs_of_isWsByte (x : ABy) (h : isWsByte x) : isWs x = true := by
  rcases h with h | h | h <;> simp [isWs, h]

theorem mergedRanges_ok (s : List Char) (all ps : List (Nat × Option Nat)) (ranges blocks : List Rng')
    (h : formatCollect (bytesOf s) all ps = .ok (ranges, blocks)) :
    (∀ r ∈ mergeOverlapped (mergeRanges ranges (sortByStart blocks)), RangeOK s r) ∧
      OSorted (mergeOverlapped (mergeRanges ranges (sortByStart blocks))) := by
  obtain ⟨ok1, ok2⟩ := formatCollect_ok s all ps ranges blocks h
  exact mergeOverlapped_spec s _ fun x hx =>
    (mem_mergeRanges _ _ _ hx).elim (ok1 x) fun hx => ok2 x (mem_sortByStart _ _ hx)

/-- `format` deletes the merged ranges of its collection loop; they are sorted, disjoint, boundary-aligned and hold
    whitespace only, so that what is left is again a text -/
theorem format_ok (s : List Char) (pos : List (Nat × Option Nat)) (o : Bytes)
    (h : format (bytesOf s) pos = .ok o) :
    ∃ ranges blocks, formatCollect (bytesOf s) pos pos = .ok (ranges, blocks) ∧
      (∀ r ∈ mergeOverlapped (mergeRanges ranges (sortByStart blocks)), RangeOK s r) ∧
      OSorted (mergeOverlapped (mergeRanges ranges (sortByStart blocks))) ∧
      o = minusFrom (bytesOf s) 0 (mergeOverlapped (mergeRanges ranges (sortByStart blocks))) ∧
      ∃ s', o = bytesOf s' := by
  unfold format at h
  cases hfc : formatCollect (bytesOf s) pos pos with
  | error e => simp [hfc] at h
  | ok rb =>
    obtain ⟨ranges, blocks⟩ := rb
    obtain ⟨m1, m2⟩ := mergedRanges_ok s pos pos ranges blocks hfc
    simp only [hfc, deleteRanges_eq_deleteAll] at h
    exact ⟨ranges, blocks, rfl, m1, m2,
      deleteAll_minus (bytesOf s) _ 0 (RSorted_of_OSorted _ (fun r hr => (m1 r hr).le) m2 0 fun _ _ => Nat.zero_le _) o h,
      deleteAll_wellFormed s _ o h⟩

/-- `format` only takes whitespace out -/
theorem format_wsSub (s : List Char) (pos : List (Nat × Option Nat)) (out : Bytes)
    (h : format (bytesOf s) pos = .ok out) : WsSub (bytesOf s) out ∧ ∃ s', out = bytesOf s' := by
  obtain ⟨ranges, blocks, _, m1, _, heq, hwf⟩ := format_ok s pos out h
  refine ⟨heq ▸ WsSub_minusFrom _ _ _ ?_, hwf⟩
  intro k hk hin
  obtain ⟨r, hr, h1, h2⟩ := (inAny_iff _ _).mp hin
  obtain ⟨x, hx, hw⟩ := (m1 r hr).ws k (by omega) (by omega)
  exact ⟨x, hx, isWs_of_isWsByte x hw⟩

end Chiritori
