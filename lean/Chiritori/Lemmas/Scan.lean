import Chiritori.Lemmas.Tokenizer
import Chiritori.Spec.Holds
/-
  The tokenizer with positions forgotten: kinds and values only.
-/
namespace Chiritori
open Spec

abbrev SOut := List (TKind × List Char)

structure SSt where
  outs : SOut
  st : TState
  pend : List Char

def sStep (ds de : List Char) (s : SSt) (c : Char) : SSt :=
  match getState c ds de s.st with
  | (some k, st') => ⟨if s.pend ≠ [] then s.outs ++ [(k, s.pend)] else s.outs, st', [c]⟩
  | (none, st') => ⟨s.outs, st', s.pend ++ [c]⟩

theorem sStep_of_none {ds de : List Char} {s : SSt} {c : Char} {st' : TState}
    (h : getState c ds de s.st = (none, st')) : sStep ds de s c = ⟨s.outs, st', s.pend ++ [c]⟩ := by
  unfold sStep; rw [h]

theorem sStep_of_some {ds de : List Char} {s : SSt} {c : Char} {k : TKind} {st' : TState}
    (h : getState c ds de s.st = (some k, st')) :
    sStep ds de s c = ⟨if s.pend ≠ [] then s.outs ++ [(k, s.pend)] else s.outs, st', [c]⟩ := by
  unfold sStep; rw [h]

theorem sStep_st (ds de : List Char) (s : SSt) (c : Char) : (sStep ds de s c).st = (getState c ds de s.st).2 := by
  unfold sStep
  split <;> rename_i h <;> rw [h]

theorem sStep_pend_ne (ds de : List Char) (s : SSt) (c : Char) : (sStep ds de s c).pend ≠ [] := by
  unfold sStep
  split <;> simp

def kv (t : Token) : TKind × List Char := (t.kind, t.value)

def proj (a : TAcc) : SSt := ⟨a.toks.map kv, a.st, a.pend⟩

theorem tokStep_proj (ds de consumed : List Char) (a : TAcc) (c : Char) (h : TInv ds de consumed a) :
    proj (tokStep ds de a c) = sStep ds de (proj a) c := by
  unfold tokStep sStep proj
  cases hg : getState c ds de a.st with
  | mk k st' =>
    cases k with
    | none => rfl
    | some kind =>
      simp only [h.pos_iff]
      split <;> simp [kv]

theorem foldl_proj (ds de : List Char) (hde : de ≠ []) (rest consumed : List Char) (a : TAcc) (h : TInv ds de consumed a) :
    proj (rest.foldl (tokStep ds de) a) = rest.foldl (sStep ds de) (proj a) := by
  induction rest generalizing consumed a with
  | nil => rfl
  | cons c cs ih =>
    simp only [List.foldl_cons]
    rw [ih (consumed ++ [c]) _ (tokStep_inv ds de hde consumed a c h), tokStep_proj ds de consumed a c h]

def sInit : SSt := ⟨[], .text, []⟩

-- the kind of the token pushed after the fold: `get_state(&' ', ..)` (tokenizer.rs:69), of which only the state matters
def flushKind (ds de : List Char) (st : TState) : TKind :=
  match (getState ' ' ds de st).1 with
  | none => .text
  | some k => k

def bkind : TState → TKind
  | .dend [] => .element
  | _ => .text

theorem bkind_of_ne {st : TState} (h : st ≠ .dend []) : bkind st = .text := by
  unfold bkind
  split
  · exact absurd rfl h
  · rfl

theorem flushKind_eq_bkind (ds de : List Char) (st : TState) : flushKind ds de st = bkind st := by
  unfold flushKind
  cases h : (getState ' ' ds de st).1 with
  | none =>
    refine (bkind_of_ne ?_).symm
    rintro rfl
    cases h
  | some k =>
    rcases (getState_some (Prod.ext h rfl : getState ' ' ds de st = (some k, _))).2 with ⟨rfl, rfl⟩ | ⟨rfl, rfl⟩ <;> rfl

theorem flushKind_text_of_ne (ds de : List Char) (st : TState) (h : st ≠ .dend []) : flushKind ds de st = .text := by
  rw [flushKind_eq_bkind, bkind_of_ne h]

def sFlush (ds de src : List Char) (s : SSt) : SOut :=
  if src = [] then s.outs else s.outs ++ [(flushKind ds de s.st, s.pend)]

theorem rawTokens_proj (src ds de : List Char) (hde : de ≠ []) :
    (rawTokens src ds de).map kv = sFlush ds de src (src.foldl (sStep ds de) sInit) := by
  have hp : proj _ = List.foldl _ (proj TAcc.init) src := foldl_proj ds de hde src [] TAcc.init (tinv_init ds de)
  unfold rawTokens sFlush flushToken
  rw [show sInit = proj TAcc.init from rfl, ← hp]
  by_cases hs : src = []
  · simp [hs, proj]
  · simp only [hs, ite_false]
    unfold flushKind
    cases hk : (getState ' ' ds de (List.foldl (tokStep ds de) TAcc.init src).st).1 <;> simp [proj, kv, hk]

/-- the merge pass on kinds and values -/
def sMergeStep (acc : SOut) (cur : TKind × List Char) : SOut :=
  match acc.getLast? with
  | some last => if last.1 = .text ∧ cur.1 = .text then acc.dropLast ++ [(TKind.text, last.2 ++ cur.2)] else acc ++ [cur]
  | none => acc ++ [cur]

theorem mergeStep_proj (acc : List Token) (t : Token) :
    (mergeStep acc t).map kv = sMergeStep (acc.map kv) (kv t) := by
  unfold mergeStep sMergeStep
  rw [List.getLast?_map]
  cases acc.getLast? with
  | none => simp
  | some last =>
    simp only [Option.map_some]
    by_cases hm : last.kind = .text ∧ t.kind = .text
    · rw [if_pos hm, if_pos (show (kv last).1 = .text ∧ (kv t).1 = .text from hm)]
      simp [kv, hm.1, List.map_dropLast]
    · rw [if_neg hm, if_neg (show ¬ ((kv last).1 = .text ∧ (kv t).1 = .text) from hm)]
      simp

theorem tokenize_proj (src ds de : List Char) (hde : de ≠ []) :
    (tokenize src ds de).map kv =
      (sFlush ds de src (src.foldl (sStep ds de) sInit)).foldl sMergeStep [] := by
  unfold tokenize
  rw [← rawTokens_proj src ds de hde]
  generalize rawTokens src ds de = raw
  have : ∀ (acc : List Token), (raw.foldl mergeStep acc).map kv = (raw.map kv).foldl sMergeStep (acc.map kv) := by
    induction raw with
    | nil => intro acc; rfl
    | cons t ts ih =>
      intro acc
      simp only [List.foldl_cons, List.map_cons]
      rw [ih (mergeStep acc t), mergeStep_proj]
  simpa using this []

end Chiritori
