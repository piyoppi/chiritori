import Chiritori.Model.ElementParser
/-
  The one place where the model of `element_parser::parse` is total although the Rust code has an `unwrap()`:
  `pairs.last_mut().unwrap()` when a quoted value ends (element_parser.rs:79,85).  `setLastValue` returns the list
  unchanged when it is empty; this file shows that it never is: a value can only begin behind a name, and a name is
  pushed when it ends.  So the `unwrap()` cannot fail and the totalisation hides nothing.
-/
namespace Chiritori

/-- the states in which an attribute has been pushed and not yet completed -/
def NeedsPairs : EState → Prop
  | .nameEnd => True
  | .valueBegin => True
  | .valueNoQuote => True
  | .valueDq _ => True
  | .valueSq _ => True
  | _ => False

theorem setLastValue_ne (pairs : Pairs) (v : List Char) (h : pairs ≠ []) : setLastValue pairs v ≠ [] := by
  unfold setLastValue
  cases hl : pairs.getLast? with
  | none => exact h
  | some x => obtain ⟨n, _⟩ := x; simp

def PairsOK (s : Pairs × EState) : Prop := NeedsPairs s.2 → s.1 ≠ []

theorem PairsOK.ite {p : Prop} [Decidable p] {a b : Pairs × EState} (ha : PairsOK a) (hb : PairsOK b) :
    PairsOK (if p then a else b) := by
  split <;> assumption

/-- every transition either enters a state that needs no attribute, or pushes one, or keeps the list of a state that
    needed one -/
theorem elStep_inv (acc : Pairs × EState) (c : Char) (h : PairsOK acc) : PairsOK (elStep acc c) := by
  obtain ⟨pairs, st⟩ := acc
  have push : ∀ a st', PairsOK (pairs ++ [(a, none)], st') := fun _ _ _ => by simp
  cases st with
  | nameBegin => exact .ite nofun (.ite nofun nofun)
  | name a => exact .ite (push a _) (.ite (push a _) nofun)
  | nameEnd => exact .ite (fun _ => h trivial) (.ite (fun _ => h trivial) nofun)
  | valueBegin =>
    exact .ite (fun _ => h trivial) (.ite (fun _ => h trivial) (.ite (fun _ => h trivial) fun _ => h trivial))
  | valueNoQuote => exact .ite nofun fun _ => h trivial
  | valueDq a => exact .ite nofun fun _ => h trivial
  | valueSq a => exact .ite nofun fun _ => h trivial
  | parseError => exact nofun

theorem run_inv (target : List Char) (acc : Pairs × EState) (h : PairsOK acc) : PairsOK (target.foldl elStep acc) := by
  induction target generalizing acc with
  | nil => exact h
  | cons c cs ih => exact ih _ (elStep_inv acc c h)

/-- `pairs.last_mut().unwrap()` cannot fail: whenever the scan of a tag body stands inside a quoted value, an attribute
    has been pushed -/
theorem elStep_pairs_nonempty (pre : List Char) :
    let st := pre.foldl elStep ([], .nameBegin)
    (∃ a, st.2 = .valueDq a ∨ st.2 = .valueSq a) → st.1.getLast? ≠ none := by
  intro st h
  have hne : st.1 ≠ [] := by
    apply run_inv pre ([], .nameBegin) nofun
    obtain ⟨a, h | h⟩ := h <;> (show NeedsPairs st.2; rw [h]; trivial)
  exact fun hc => hne (List.getLast?_eq_none_iff.mp hc)

end Chiritori
