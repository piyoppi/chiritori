import Chiritori.Lemmas.Scan
/-
  The automaton over a run of characters, and the pieces a source is cut into.
-/
namespace Chiritori
open Spec

abbrev srun (ds de : List Char) (s : SSt) (cs : List Char) : SSt := cs.foldl (sStep ds de) s

theorem srun_append (ds de : List Char) (s : SSt) (a b : List Char) :
    srun ds de s (a ++ b) = srun ds de (srun ds de s a) b := List.foldl_append

theorem srun_cons (ds de : List Char) (s : SSt) (c : Char) (cs : List Char) :
    srun ds de s (c :: cs) = srun ds de (sStep ds de s c) cs := rfl

theorem srun_pend_ne (ds de : List Char) (cs : List Char) (s : SSt) (h : cs ≠ []) : (srun ds de s cs).pend ≠ [] := by
  rw [← List.dropLast_concat_getLast h, srun_append]
  exact sStep_pend_ne ds de _ _

inductive Piece where
  | text (s : List Char)
  | tag (b0 : Char) (rest : List Char)

def Piece.render (ds de : List Char) : Piece → List Char
  | .text s => s
  | .tag b0 rest => ds ++ (b0 :: (rest ++ de))

def Piece.ok (d0 e0 : Char) : Piece → Prop
  | .text s => ∀ c ∈ s, c ≠ d0
  | .tag _ rest => ∀ c ∈ rest, c ≠ e0

def renderAll (ds de : List Char) : List Piece → List Char
  | [] => []
  | p :: ps => p.render ds de ++ renderAll ds de ps

/-- what the scan should produce: maximal text pieces and the tags; `t` is a trailing stretch of text that
    follows the pieces (empty, or an unterminated start of a tag) -/
def tnorm (ds de t : List Char) : List Piece → List Char → SOut
  | [], acc => if acc ++ t ≠ [] then [(.text, acc ++ t)] else []
  | .text s :: ps, acc => tnorm ds de t ps (acc ++ s)
  | .tag b0 rest :: ps, acc =>
    (if acc ≠ [] then [(TKind.text, acc)] else []) ++ [(.element, ds ++ (b0 :: (rest ++ de)))] ++ tnorm ds de t ps []

/-- once its first character has matched, a delimiter is matched character by character; `mk` is the state that
    holds what is left of it (`.dstart`, `.dend`) -/
theorem srun_delim (ds de : List Char) (mk : List Char → TState)
    (hmk : ∀ x r, getState x ds de (mk (x :: r)) = (none, mk r)) (outs : SOut) (r1 r2 pend : List Char) :
    srun ds de ⟨outs, mk (r1 ++ r2), pend⟩ r1 = ⟨outs, mk r2, pend ++ r1⟩ := by
  induction r1 generalizing pend with
  | nil => rw [List.append_nil]; rfl
  | cons c cs ih =>
    rw [srun_cons, List.cons_append, sStep_of_none (hmk c (cs ++ r2)), ih, List.append_assoc]
    rfl

end Chiritori
