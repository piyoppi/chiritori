import Chiritori.Lemmas.Respell
import Chiritori.Lemmas.SeamIdx
/-
  The same document with its tag names rewritten consistently (and, possibly, under another pair of delimiters): the
  tokens correspond one to one (texts equal, tags the same grammar tag with the renamed name), they parse to forests of
  the same shape whose elements differ in their names only, and pruning / flattening keeps the correspondence.
  The correspondence is an instance of the one in Lemmas/Simulate.lean.
  The renaming `ρ` is a function on names that is injective on the names `N` of the document, commutes with the
  stripping of leading slashes and keeps the closing form (a leading slash) and the validity of a name.
-/
namespace Chiritori
open Spec

structure RenOK (ρ : List Char → List Char) (N : List Char → Prop) : Prop where
  inj : ∀ a b, N a → N b → ρ a = ρ b → a = b
  trim : ∀ a, N a → ρ (trimSlashes a) = trimSlashes (ρ a)
  closed : ∀ a, N a → N (trimSlashes a)
  head : ∀ a, N a → ((ρ a).head? = some '/' ↔ a.head? = some '/')
  nameOK : ∀ a, N a → NameOK a → NameOK (ρ a)

def renEl (ρ : List Char → List Char) (el : Element) : Element := ⟨ρ el.name, el.attrs⟩
def renTag (ρ : List Char → List Char) (t : TagS) : TagS := { t with name := ρ t.name }

theorem renTag_ok (ρ : List Char → List Char) (N : List Char → Prop) (hρ : RenOK ρ N) (t : TagS) (ht : t.ok) (hn : N t.name) :
    (renTag ρ t).ok := ⟨hρ.nameOK _ hn ht.1, ht.2.1, ht.2.2⟩

theorem renTag_expected (ρ : List Char → List Char) (t : TagS) : (renTag ρ t).expected = renEl ρ t.expected := rfl

theorem render_ne_nil (t : TagS) (ht : t.ok) : t.render ≠ [] := by
  obtain ⟨c, cs, hn, _, _⟩ := ht.1
  unfold TagS.render
  rw [hn]
  intro h
  have := congrArg List.length h
  simp at this

section
variable (ds de ds' de' : List Char) (ρ : List Char → List Char) (N : List Char → Prop) (R : Token → Token → Prop)

/-- the same text, or the same grammar tag with its name rewritten, under the respective delimiters -/
def TokN (t u : Token) : Prop :=
  t.kind = u.kind ∧
    ((t.kind = .text ∧ t.value = u.value) ∨
     (t.kind = .element ∧ ∃ tg : TagS, tg.ok ∧ N tg.name ∧ t.value = ds ++ tg.render ++ de ∧
        u.value = ds' ++ (renTag ρ tg).render ++ de' ∧
        StripOK ds de tg.render ∧ StripOK ds' de' (renTag ρ tg).render))

variable {ds de ds' de' ρ N} in
theorem tokN_texts {t u : Token} (h : TokN ds de ds' de' ρ N t u) :
    t.kind = u.kind ∧ (t.kind = .text → t.value = u.value) :=
  ⟨h.1, fun hkt => h.2.elim (·.2) fun hke => nomatch hkt.symm.trans hke.1⟩

theorem elparse_n (hρ : RenOK ρ N) (hds : ds ≠ []) (hde : de ≠ []) (hds' : ds' ≠ []) (hde' : de' ≠ [])
    (t u : Token) (h : TokN ds de ds' de' ρ N t u) :
    elparse ds' de' u = (elparse ds de t).map (renEl ρ) ∧ ∀ el, elparse ds de t = some el → N el.name := by
  obtain ⟨hk, h | h⟩ := h
  · obtain ⟨hkt, _⟩ := h
    have hku : u.kind = .text := by rw [← hk]; exact hkt
    simp [elparse, hkt, hku]
  · obtain ⟨hkt, tg, hok, hn, hv, hv', hf, hf'⟩ := h
    have hku : u.kind = .element := by rw [← hk]; exact hkt
    have hok' := renTag_ok ρ N hρ tg hok hn
    rw [elparse_strip ds de tg.render t hds hde (render_ne_nil tg hok) hkt hv hf,
      elparse_strip ds' de' (renTag ρ tg).render u hds' hde' (render_ne_nil _ hok') hku hv' hf',
      parseBody_render tg hok, parseBody_render _ hok']
    refine ⟨rfl, ?_⟩
    intro el hel
    injection hel with hel
    rw [← hel]
    exact hn

/-- corresponding tokens, with any further relation `R` carried along (e.g. equal line numbers) -/
def TokNR (t u : Token) : Prop := TokN ds de ds' de' ρ N t u ∧ R t u

mutual
/-- forests of the same shape; corresponding elements differ in their names only, and their names are in `N` -/
def partsN : List Part → List Part → Prop
  | [], [] => True
  | p :: ps, q :: qs => partN p q ∧ partsN ps qs
  | [], _ :: _ => False
  | _ :: _, [] => False
def partN : Part → Part → Prop
  | .text t, .text u => TokNR ds de ds' de' ρ N R t u
  | .element el st en ch, .element el' st' en' ch' =>
    el' = renEl ρ el ∧ N el.name ∧ TokNR ds de ds' de' ρ N R st st' ∧ TokNR ds de ds' de' ρ N R en en' ∧ partsN ch ch'
  | .text _, .element _ _ _ _ => False
  | .element _ _ _ _, .text _ => False
end

def TokNs : List Token → List Token → Prop
  | [], [] => True
  | t :: ts, u :: us => TokNR ds de ds' de' ρ N R t u ∧ TokNs ts us
  | [], _ :: _ => False
  | _ :: _, [] => False

def Renamed (e e' : Element) : Prop := e' = renEl ρ e ∧ N e.name

theorem tokNs_iff (T T' : List Token) : TokNs ds de ds' de' ρ N R T T' ↔ PW (TokNR ds de ds' de' ρ N R) T T' :=
  PW.of_unfold trivial (fun _ _ _ _ => Iff.rfl) (fun _ _ h => h) (fun _ _ h => h) T T'

theorem partsN_iff (a b : List Part) :
    partsN ds de ds' de' ρ N R a b ↔ Alike (TokNR ds de ds' de' ρ N R) (Renamed ρ N) a b := by
  constructor
  · intro h
    induction a using parts_induction generalizing b with
    | nil =>
      cases b with
      | nil => exact .nil
      | cons _ _ => exact h.elim
    | text t rest ih =>
      cases b with
      | nil => exact h.elim
      | cons q qs =>
        cases q with
        | text u => exact .text h.1 (ih qs h.2)
        | element _ _ _ _ => exact h.1.elim
    | element el st en ch rest ihc ih =>
      cases b with
      | nil => exact h.elim
      | cons q qs =>
        cases q with
        | text u => exact h.1.elim
        | element el' st' en' ch' =>
          obtain ⟨⟨h1, hn, h2, h3, h4⟩, h5⟩ := h
          exact .element ⟨h1, hn⟩ h2 h3 (ihc ch' h4) (ih qs h5)
  · intro h
    induction h with
    | nil => trivial
    | text h _ ih => exact ⟨h, ih⟩
    | element he h1 h2 _ _ ihc ih => exact ⟨⟨he.1, he.2, h1, h2, ihc⟩, ih⟩

theorem flatten_n (a b : List Part) (h : partsN ds de ds' de' ρ N R a b) :
    TokNs ds de ds' de' ρ N R (flattenParts a) (flattenParts b) :=
  (tokNs_iff ds de ds' de' ρ N R _ _).mpr ((partsN_iff ds de ds' de' ρ N R a b).mp h).flatten

theorem flattenPart_n : ∀ (p q : Part), partN ds de ds' de' ρ N R p q →
    TokNs ds de ds' de' ρ N R (flattenPart p) (flattenPart q) := by
  intro p q h
  have := flatten_n ds de ds' de' ρ N R [p] [q] ⟨h, trivial⟩
  simpa only [flattenParts, List.append_nil] using this

theorem renamed_sel {P P' : Element → Bool} (hP : ∀ el, N el.name → P' (renEl ρ el) = P el) (e e' : Element)
    (h : Renamed ρ N e e') : P' e' = P e := by
  rw [h.1, hP e h.2]

theorem prune_n (P P' : Element → Bool) (hP : ∀ el, N el.name → P' (renEl ρ el) = P el) (a b : List Part)
    (h : partsN ds de ds' de' ρ N R a b) : partsN ds de ds' de' ρ N R (pruneParts P a) (pruneParts P' b) :=
  (partsN_iff ds de ds' de' ρ N R _ _).mpr (((partsN_iff ds de ds' de' ρ N R a b).mp h).prune (renamed_sel ρ N hP))

theorem prunePart_n (P P' : Element → Bool) (hP : ∀ el, N el.name → P' (renEl ρ el) = P el) :
    ∀ (p q : Part), partN ds de ds' de' ρ N R p q →
    partsN ds de ds' de' ρ N R (prunePart P p) (prunePart P' q) := by
  intro p q h
  have := prune_n ds de ds' de' ρ N R P P' hP [p] [q] ⟨h, trivial⟩
  simpa only [pruneParts, List.append_nil] using this

theorem elements_n (a b : List Part) (h : partsN ds de ds' de' ρ N R a b) :
    (elementsOf b).map (·.1) = (elementsOf a).map (fun e => renEl ρ e.1) :=
  (((partsN_iff ds de ds' de' ρ N R a b).mp h).elements.map_eq (fun _ _ he => he.1.symm)).symm

theorem elementsPart_n : ∀ (p q : Part), partN ds de ds' de' ρ N R p q →
    (elementsOfPart q).map (·.1) = (elementsOfPart p).map (fun e => renEl ρ e.1) := by
  intro p q h
  have := elements_n ds de ds' de' ρ N R [p] [q] ⟨h, trivial⟩
  simpa only [elementsOf, List.append_nil] using this

theorem seamIdx_n (P P' : Element → Bool) (hP : ∀ el, N el.name → P' (renEl ρ el) = P el) :
    ∀ (a b : List Part) (n : Nat), partsN ds de ds' de' ρ N R a b → seamIdxParts P a n = seamIdxParts P' b n :=
  fun a b n h => ((partsN_iff ds de ds' de' ρ N R a b).mp h).seamIdx (renamed_sel ρ N hP) n

theorem seamIdxPart_n (P P' : Element → Bool) (hP : ∀ el, N el.name → P' (renEl ρ el) = P el) :
    ∀ (p q : Part) (n : Nat), partN ds de ds' de' ρ N R p q → seamIdxPart P p n = seamIdxPart P' q n := by
  intro p q n h
  have := seamIdx_n ds de ds' de' ρ N R P P' hP [p] [q] n ⟨h, trivial⟩
  simpa only [seamIdxParts, List.append_nil] using this

/-- the parser sees the renamed elements; a renaming that is injective on the names of the document, commutes with the
    stripping of slashes and keeps the closing form leaves every comparison of the stack machine as it was -/
theorem spelling_n (hρ : RenOK ρ N) (hds : ds ≠ []) (hde : de ≠ []) (hds' : ds' ≠ []) (hde' : de' ≠ []) :
    Spelling ds de ds' de' (TokNR ds de ds' de' ρ N R) (Renamed ρ N) where
  parse t u h := by
    obtain ⟨h1, h2⟩ := elparse_n ds de ds' de' ρ N hρ hds hde hds' hde' t u h.1
    cases hel : elparse ds de t with
    | none => exact .inl ⟨rfl, by rw [h1, hel]; rfl⟩
    | some e => exact .inr ⟨e, renEl ρ e, rfl, by rw [h1, hel]; rfl, rfl, h2 e hel⟩
  closing e e' h := by
    rw [h.1]
    exact hρ.head _ h.2
  same f f' e e' hf he := by
    rw [hf.1, he.1]
    show f.name = trimSlashes e.name ↔ ρ f.name = trimSlashes (ρ e.name)
    rw [← hρ.trim _ he.2]
    exact ⟨fun h => by rw [h], fun h => hρ.inj _ _ hf.2 (hρ.closed _ he.2) h⟩

theorem parse_n (hρ : RenOK ρ N) (hds : ds ≠ []) (hde : de ≠ []) (hds' : ds' ≠ []) (hde' : de' ≠ []) (T T' : List Token)
    (h : TokNs ds de ds' de' ρ N R T T') : partsN ds de ds' de' ρ N R (parse ds de T) (parse ds' de' T') :=
  (partsN_iff ds de ds' de' ρ N R _ _).mpr
    (parse_sim (spelling_n ds de ds' de' ρ N R hρ hds hde hds' hde') Alike.congr ((tokNs_iff ds de ds' de' ρ N R T T').mp h))

end

end Chiritori
