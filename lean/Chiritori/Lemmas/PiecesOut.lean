import Chiritori.Lemmas.KeptTokens
import Chiritori.Props.C08Wide
/-
  Well-delimited texts: what their tokens look like, and that deleting whitespace outside the tags of a sequence of
  such tokens gives a well-delimited text with the same tags (`pieces_core`, and what `PExact` implies).
-/
namespace Chiritori
open Spec

theorem tokens_tnorm (d0 : Char) (dr : List Char) (e0 : Char) (er : List Char) (ps : List Piece)
    (hok : ∀ p ∈ ps, p.ok d0 e0) :
    (tokenize (renderAll (d0 :: dr) (e0 :: er) ps) (d0 :: dr) (e0 :: er)).map (fun t => (t.kind, t.value))
      = tnorm (d0 :: dr) (e0 :: er) [] ps [] :=
  Props.C08.tokenize_wide_tnorm d0 dr e0 er ps (Props.C08.wideOK_of_ok d0 dr e0 er ps [] hok nofun)

theorem mem_optText {acc : List Char} {kv : TKind × List Char}
    (h : kv ∈ (if acc ≠ [] then [(TKind.text, acc)] else [])) : kv = (.text, acc) := by
  split at h
  · exact List.mem_singleton.mp h
  · cases h

theorem mem_tnorm (ds de : List Char) (ps : List Piece) (acc : List Char) (kv : TKind × List Char)
    (h : kv ∈ tnorm ds de [] ps acc) :
    (kv.1 = .text ∧ ∀ c ∈ kv.2, c ∈ acc ∨ ∃ s, .text s ∈ ps ∧ c ∈ s) ∨
      ∃ b0 rest, .tag b0 rest ∈ ps ∧ kv = (.element, ds ++ (b0 :: (rest ++ de))) := by
  fun_induction tnorm ds de [] ps acc with
  | case1 acc _ =>
    rw [List.append_nil] at h
    rw [List.mem_singleton.mp h]
    exact Or.inl ⟨rfl, fun c hc => Or.inl hc⟩
  | case2 => cases h
  | case3 s ps acc ih =>
    rcases ih h with ⟨hk, hc⟩ | ⟨b0, rest, hm, e⟩
    · refine Or.inl ⟨hk, fun c hc' => ?_⟩
      rcases hc c hc' with h1 | ⟨s', hs', h2⟩
      · exact (List.mem_append.mp h1).imp_right fun h2 => ⟨s, List.mem_cons_self, h2⟩
      · exact Or.inr ⟨s', List.mem_cons_of_mem _ hs', h2⟩
    · exact Or.inr ⟨b0, rest, List.mem_cons_of_mem _ hm, e⟩
  | case4 b0 rest ps acc ih =>
    rw [List.mem_append, List.mem_append, List.mem_singleton] at h
    rcases h with (h | rfl) | h
    · rw [mem_optText h]
      exact Or.inl ⟨rfl, fun c hc => Or.inl hc⟩
    · exact Or.inr ⟨b0, rest, List.mem_cons_self, rfl⟩
    · rcases ih h with ⟨hk, hc⟩ | ⟨b0', rest', hm, e⟩
      · refine Or.inl ⟨hk, fun c hc' => Or.inr ?_⟩
        rcases hc c hc' with h1 | ⟨s', hs', h2⟩
        · cases h1
        · exact ⟨s', List.mem_cons_of_mem _ hs', h2⟩
      · exact Or.inr ⟨b0', rest', List.mem_cons_of_mem _ hm, e⟩

def tagsOf (ds de : List Char) : List Piece → List (List Char)
  | [] => []
  | .text _ :: ps => tagsOf ds de ps
  | .tag b0 rest :: ps => (ds ++ (b0 :: (rest ++ de))) :: tagsOf ds de ps

def elemVals (l : SOut) : List (List Char) := (l.filter fun kv => kv.1 = .element).map (·.2)

theorem elemVals_tnorm (ds de : List Char) (ps : List Piece) (acc : List Char) :
    elemVals (tnorm ds de [] ps acc) = tagsOf ds de ps := by
  fun_induction tnorm ds de [] ps acc with
  | case1 | case2 => rfl
  | case3 s ps acc ih => exact ih
  | case4 b0 rest ps acc ih =>
    rw [tagsOf, ← ih]
    split <;> simp [elemVals]

theorem tagValues_eq_elemVals (toks : List Token) :
    tagValues toks = elemVals (toks.map fun t => (t.kind, t.value)) := by
  simp only [tagValues, elemVals, List.filter_map, List.map_map]
  rfl

theorem tagValues_render (d0 : Char) (dr : List Char) (e0 : Char) (er : List Char) (ps : List Piece)
    (hok : ∀ p ∈ ps, p.ok d0 e0) :
    tagValues (tokenize (renderAll (d0 :: dr) (e0 :: er) ps) (d0 :: dr) (e0 :: er)) = tagsOf (d0 :: dr) (e0 :: er) ps := by
  rw [tagValues_eq_elemVals, tokens_tnorm d0 dr e0 er ps hok, elemVals_tnorm]

def TokShape (d0 e0 : Char) (ds de : List Char) (kv : TKind × List Char) : Prop :=
  match kv.1 with
  | .text => ∀ c ∈ kv.2, c ≠ d0
  | .element => ∃ b0 rest, kv.2 = ds ++ (b0 :: (rest ++ de)) ∧ ∀ c ∈ rest, c ≠ e0

theorem tnorm_shape (d0 e0 : Char) (ds de : List Char) (ps : List Piece) (acc : List Char)
    (hok : ∀ p ∈ ps, p.ok d0 e0) (hacc : ∀ c ∈ acc, c ≠ d0) : ∀ kv ∈ tnorm ds de [] ps acc, TokShape d0 e0 ds de kv := by
  intro kv hkv
  rcases mem_tnorm ds de ps acc kv hkv with ⟨hk, hc⟩ | ⟨b0, rest, hm, rfl⟩
  · simp only [TokShape, hk]
    intro c hc'
    rcases hc c hc' with h | ⟨s, hs, h⟩
    · exact hacc c h
    · exact hok _ hs c h
  · exact ⟨b0, rest, rfl, hok _ hm⟩

def wsChar (c : Char) : Bool := c == ' ' || c == '\t' || c == '\n'

def nwC (s : List Char) : List Char := s.filter fun c => !wsChar c

theorem nwC_append (a b : List Char) : nwC (a ++ b) = nwC a ++ nwC b := by simp [nwC]

theorem lead_beq (c d : Char) : (ABy.lead c == ABy.lead d) = (c == d) := by
  rw [Bool.eq_iff_iff, beq_iff_eq, beq_iff_eq, ABy.lead.injEq]

theorem isWs_lead (c : Char) : isWs (.lead c) = wsChar c := by
  simp only [isWs, wsChar, lead_beq]

theorem isWs_cont : isWs .cont = false := by decide

theorem wsChar_size (c : Char) (h : wsChar c = true) : charBytes c = [.lead c] := by
  have hsz : c.utf8Size = 1 := by
    simp only [wsChar, Bool.or_eq_true, beq_iff_eq] at h
    rcases h with (h | h) | h <;> (subst h; decide)
  simp [charBytes, hsz]

theorem isWs_charBytes (c : Char) (h : wsChar c = false) : ∀ y ∈ charBytes c, isWs y = false := by
  intro y hy
  rcases List.mem_cons.mp hy with rfl | hy
  · rw [isWs_lead]; exact h
  · rw [(List.mem_replicate.mp hy).2]; exact isWs_cont

theorem charBytes_last (c : Char) : ∃ y, (charBytes c).getLast? = some y ∧ (y = .cont ∨ y = .lead c) := by
  unfold charBytes
  cases c.utf8Size - 1 with
  | zero => exact ⟨.lead c, rfl, Or.inr rfl⟩
  | succ m => exact ⟨.cont, by rw [List.getLast?_cons, List.getLast?_replicate]; rfl, Or.inl rfl⟩

theorem bytesOf_last (w : List Char) (c : Char) :
    ∃ y, (bytesOf (w ++ [c])).getLast? = some y ∧ (y = .cont ∨ y = .lead c) := by
  obtain ⟨y, hy, hyc⟩ := charBytes_last c
  refine ⟨y, ?_, hyc⟩
  rw [bytesOf_append, show bytesOf [c] = charBytes c from List.append_nil _, List.getLast?_append, hy]
  rfl

theorem trim_full (s : Bytes) (x y : ABy) (hx : s.head? = some x) (hxw : isWs x = false)
    (hy : s.getLast? = some y) (hyw : isWs y = false) : trimL s = [] ∧ trimWs s = s ∧ trimR s = [] := by
  cases s with
  | nil => simp at hx
  | cons a as =>
    simp only [List.head?_cons, Option.some.injEq] at hx
    subst hx
    have hd : (a :: as).dropWhile isWs = a :: as := by simp [hxw]
    obtain ⟨rs, hrs⟩ : ∃ rs, (a :: as).reverse = y :: rs :=
      List.head?_eq_some_iff.mp (by rw [List.head?_reverse]; exact hy)
    refine ⟨by simp [trimL, hxw], ?_, ?_⟩
    · simp only [trimWs, hd, hrs, List.dropWhile_cons, hyw, Bool.false_eq_true, ite_false]
      rw [← hrs, List.reverse_reverse]
    · simp only [trimR, hd, hrs, List.takeWhile_cons, hyw, Bool.false_eq_true, ite_false, List.reverse_nil]

def EdgeOK (v : List Char) : Prop :=
  (∃ c0 rest, v = c0 :: rest ∧ wsChar c0 = false) ∧ (∃ w c1, v = w ++ [c1] ∧ wsChar c1 = false)

theorem edgeOK_delims (d0 : Char) (dr : List Char) (e0 : Char) (er : List Char) (hd0 : wsChar d0 = false)
    (hel : ∀ w c, (e0 :: er) = w ++ [c] → wsChar c = false) (body : List Char) :
    EdgeOK ((d0 :: dr) ++ (body ++ (e0 :: er))) := by
  obtain ⟨w, c, hwc⟩ : ∃ w c, e0 :: er = w ++ [c] := ⟨_, _, (List.dropLast_concat_getLast (List.cons_ne_nil _ _)).symm⟩
  exact ⟨⟨d0, _, rfl, hd0⟩, ⟨(d0 :: dr) ++ (body ++ w), c, by rw [hwc]; simp, hel w c hwc⟩⟩

theorem edgeOK_bytes (v : List Char) (h : EdgeOK v) :
    (∃ x, (bytesOf v).head? = some x ∧ isWs x = false) ∧ (∃ y, (bytesOf v).getLast? = some y ∧ isWs y = false) := by
  obtain ⟨⟨c0, r0, e0, n0⟩, ⟨w1, c1, e1, n1⟩⟩ := h
  refine ⟨⟨.lead c0, by rw [e0]; rfl, by rw [isWs_lead]; exact n0⟩, ?_⟩
  obtain ⟨y, hy, hyc⟩ := bytesOf_last w1 c1
  refine ⟨y, by rw [e1]; exact hy, ?_⟩
  rcases hyc with rfl | rfl
  · exact isWs_cont
  · rw [isWs_lead]; exact n1

theorem minusFrom_encoded (F : List Rng) : ∀ (v : List Char) (off : Nat),
    (∀ k, k < (bytesOf v).length → inAny F (off + k) = true → ∃ y, (bytesOf v)[k]? = some y ∧ isWs y = true) →
    ∃ v', minusFrom (bytesOf v) off F = bytesOf v' ∧ nwC v' = nwC v := by
  intro v
  induction v with
  | nil => exact fun _ _ => ⟨[], rfl, rfl⟩
  | cons c cs ih =>
    intro off h
    obtain ⟨v', hv', hnw⟩ := ih (off + (charBytes c).length) (by
      intro k hk hF
      have := h ((charBytes c).length + k) (by rw [bytesOf, List.length_append]; omega) (by rw [← Nat.add_assoc]; exact hF)
      rwa [bytesOf, List.getElem?_append_right (Nat.le_add_right _ _), Nat.add_sub_cancel_left] at this)
    rw [bytesOf, minusFrom_append, hv']
    cases hws : wsChar c with
    | true =>
      -- a one-byte whitespace character: deleted or kept
      rw [wsChar_size c hws, minusFrom_cons]
      have hdrop : ∀ s, nwC (c :: s) = nwC s := fun s => by simp [nwC, hws]
      split
      · exact ⟨v', rfl, by rw [hdrop, hnw]⟩
      · exact ⟨c :: v', by rw [bytesOf, wsChar_size c hws]; rfl, by rw [hdrop, hdrop, hnw]⟩
    | false =>
      -- no byte of this character is whitespace: nothing of it is deleted
      have hkeep : minusFrom (charBytes c) off F = charBytes c := by
        apply minusFrom_keep
        intro i hi1 hi2
        cases hF : inAny F i with
        | false => rfl
        | true =>
          obtain ⟨y, hy, hyw⟩ := h (i - off) (by rw [bytesOf, List.length_append]; omega)
            (by rw [Nat.add_sub_cancel' hi1]; exact hF)
          rw [bytesOf, List.getElem?_append_left (by omega)] at hy
          rw [isWs_charBytes c hws y (List.mem_of_getElem? hy)] at hyw
          cases hyw
      exact ⟨c :: v', by rw [hkeep]; rfl, by simp only [nwC, List.filter_cons] at hnw ⊢; rw [hnw]⟩

theorem bytesOf_inj (a b : List Char) (h : bytesOf a = bytesOf b) : a = b := by
  have := congrArg charsOf h
  rwa [charsOf_bytesOf, charsOf_bytesOf] at this

theorem minusFrom_sublist (b : Bytes) (off : Nat) (F : List Rng) : (minusFrom b off F).Sublist b := by
  have := (List.filter_sublist (l := b.zipIdx off) (p := fun x => !inAny F x.2)).map (·.1)
  rwa [List.zipIdx_map_fst] at this

/-- piece by piece, a well-delimited text against a token list: the same tags, texts with the same non-whitespace -/
def PRel (ds de : List Char) : List Piece → List Token → Prop
  | [], [] => True
  | .text v :: ps, t :: L => t.kind = .text ∧ nwC v = nwC t.value ∧ PRel ds de ps L
  | .tag b0 rest :: ps, t :: L => t.kind = .element ∧ t.value = ds ++ (b0 :: (rest ++ de)) ∧ PRel ds de ps L
  | _, _ => False

theorem prel_nil {ds de : List Char} {qs : List Piece} (h : PRel ds de qs []) : qs = [] := by
  cases qs with
  | nil => rfl
  | cons q _ => cases q <;> exact h.elim

theorem prel_cons_text {ds de : List Char} {qs : List Piece} {t : Token} {L : List Token}
    (hk : t.kind = .text) (h : PRel ds de qs (t :: L)) :
    ∃ v qs', qs = .text v :: qs' ∧ nwC v = nwC t.value ∧ PRel ds de qs' L := by
  match qs, h with
  | .text v :: qs', h => exact ⟨v, qs', rfl, h.2⟩
  | .tag _ _ :: _, h => exact nomatch hk.symm.trans h.1

theorem prel_cons_tag {ds de : List Char} {qs : List Piece} {t : Token} {L : List Token}
    (hk : t.kind = .element) (h : PRel ds de qs (t :: L)) :
    ∃ b0 rest qs', qs = .tag b0 rest :: qs' ∧ t.value = ds ++ (b0 :: (rest ++ de)) ∧ PRel ds de qs' L := by
  match qs, h with
  | .tag b0 rest :: qs', h => exact ⟨b0, rest, qs', rfl, h.2⟩
  | .text _ :: _, h => exact nomatch hk.symm.trans h.1

def PExact (ds de : List Char) (F : List Rng) : List Piece → List Token → Nat → Prop
  | [], [], _ => True
  | .text v :: ps, t :: L, off =>
    t.kind = .text ∧ bytesOf v = minusFrom (bytesOf t.value) off F ∧ PExact ds de F ps L (off + (bytesOf t.value).length)
  | .tag b0 rest :: ps, t :: L, off =>
    t.kind = .element ∧ t.value = ds ++ (b0 :: (rest ++ de)) ∧ PExact ds de F ps L (off + (bytesOf t.value).length)
  | _, _, _ => False

theorem pexact_nil {ds de : List Char} {F : List Rng} {qs : List Piece} {off : Nat} (h : PExact ds de F qs [] off) :
    qs = [] := by
  cases qs with
  | nil => rfl
  | cons q _ => cases q <;> exact h.elim

theorem pexact_cons_text {ds de : List Char} {F : List Rng} {qs : List Piece} {t : Token} {L : List Token} {off : Nat}
    (hk : t.kind = .text) (h : PExact ds de F qs (t :: L) off) :
    ∃ v qs', qs = .text v :: qs' ∧ bytesOf v = minusFrom (bytesOf t.value) off F ∧
      PExact ds de F qs' L (off + (bytesOf t.value).length) := by
  match qs, h with
  | .text v :: qs', h => exact ⟨v, qs', rfl, h.2⟩
  | .tag _ _ :: _, h => exact nomatch hk.symm.trans h.1

theorem pexact_cons_tag {ds de : List Char} {F : List Rng} {qs : List Piece} {t : Token} {L : List Token} {off : Nat}
    (hk : t.kind = .element) (h : PExact ds de F qs (t :: L) off) :
    ∃ b0 rest qs', qs = .tag b0 rest :: qs' ∧ t.value = ds ++ (b0 :: (rest ++ de)) ∧
      PExact ds de F qs' L (off + (bytesOf t.value).length) := by
  match qs, h with
  | .tag b0 rest :: qs', h => exact ⟨b0, rest, qs', rfl, h.2⟩
  | .text _ :: _, h => exact nomatch hk.symm.trans h.1

theorem wsOnly_mid {F : List Rng} {pre x post : Bytes}
    (hF : ∀ d, inAny F d = true → ∃ y, (pre ++ (x ++ post))[d]? = some y ∧ isWs y = true) :
    ∀ k, k < x.length → inAny F (pre.length + k) = true → ∃ y, x[k]? = some y ∧ isWs y = true := by
  intro k hk hFk
  obtain ⟨y, hy, hyw⟩ := hF _ hFk
  rw [List.getElem?_append_right (Nat.le_add_right _ _), Nat.add_sub_cancel_left, List.getElem?_append_left hk] at hy
  exact ⟨y, hy, hyw⟩

/-- tokens whose tags are spelled with `ds`, `de` and begin and end with a character that is not whitespace, after the
    deletion of whitespace outside the cores: again a rendering of pieces, which are the tokens one by one -/
theorem pieces_core (ds de : List Char) (F : List Rng) :
    ∀ (L : List Token) (pre : Bytes),
    (∀ d, inAny F d = true → ∃ y, (pre ++ (L.map fun t => bytesOf t.value).flatten)[d]? = some y ∧ isWs y = true) →
    (∀ t ∈ L, t.kind = .element → (∃ b0 rest, t.value = ds ++ (b0 :: (rest ++ de))) ∧ EdgeOK t.value) →
    CoresKept F (layoutOf (L.map fun t => bytesOf t.value)) pre.length →
    ∃ ps, bytesOf (renderAll ds de ps) = minusFrom (L.map fun t => bytesOf t.value).flatten pre.length F ∧
      PExact ds de F ps L pre.length := by
  intro L
  induction L with
  | nil => exact fun _ _ _ _ => ⟨[], rfl, trivial⟩
  | cons t L ih =>
    intro pre hF hsh hck
    rw [List.map_cons, List.flatten_cons] at hF
    have hlen : (bytesOf t.value).length =
        (trimL (bytesOf t.value)).length + (trimWs (bytesOf t.value)).length + (trimR (bytesOf t.value)).length := by
      conv => lhs; rw [(trimWs_decomp (bytesOf t.value)).1]
      simp [Nat.add_assoc]
    simp only [List.map_cons, layoutOf, CoresKept, List.length_nil, Nat.add_zero] at hck
    obtain ⟨hcore, _, hrest⟩ := hck
    obtain ⟨ps, p2, p5⟩ := ih (pre ++ bytesOf t.value) (by rwa [List.append_assoc])
      (fun u hu => hsh u (List.mem_cons_of_mem _ hu)) (by rw [List.length_append, hlen, ← Nat.add_assoc, ← Nat.add_assoc]; exact hrest)
    rw [List.length_append] at p2 p5
    rw [List.map_cons, List.flatten_cons, minusFrom_append, ← p2]
    cases hk : t.kind with
    | element =>
      -- a tag begins and ends with a non-whitespace byte, so it is its own core and stays as it is
      obtain ⟨⟨b0, rest, hv⟩, hedge⟩ := hsh t List.mem_cons_self hk
      obtain ⟨⟨x, hx, hxw⟩, ⟨y, hy, hyw⟩⟩ := edgeOK_bytes _ hedge
      obtain ⟨t1, t2, _⟩ := trim_full (bytesOf t.value) x y hx hxw hy hyw
      rw [t1, t2, List.length_nil, Nat.add_zero] at hcore
      rw [minusFrom_keep _ _ _ hcore]
      exact ⟨.tag b0 rest :: ps, by rw [renderAll, Piece.render, ← hv, bytesOf_append], hk, hv, p5⟩
    | text =>
      obtain ⟨v', hv', _⟩ := minusFrom_encoded F t.value pre.length (wsOnly_mid hF)
      exact ⟨.text v' :: ps, by rw [renderAll, Piece.render, bytesOf_append, hv'], hk, hv'.symm, p5⟩

end Chiritori

namespace Chiritori.Props.C18
open Chiritori Chiritori.Spec

/-- what `PExact` says in plain terms: as many pieces as tokens, and the tags of the pieces are the tag tokens, in order -/
theorem pexact_tags (ds de : List Char) (F : List Rng) : ∀ (qs : List Piece) (L : List Token) (off : Nat),
    PExact ds de F qs L off → qs.length = L.length ∧ tagsOf ds de qs = tagValues L := by
  intro qs L off h
  fun_induction PExact ds de F qs L off with
  | case1 => exact ⟨rfl, rfl⟩
  | case2 v ps t L off ih =>
    obtain ⟨hk, _, h⟩ := h
    exact ⟨congrArg (· + 1) (ih h).1, by rw [tagsOf, (ih h).2]; simp [tagValues, hk]⟩
  | case3 b0 rest ps t L off ih =>
    obtain ⟨hk, hv, h⟩ := h
    exact ⟨congrArg (· + 1) (ih h).1, by rw [tagsOf, (ih h).2, ← hv]; simp [tagValues, hk]⟩
  | case4 => exact h.elim

end Chiritori.Props.C18

namespace Chiritori
open Spec

/-- a text loses bytes only, a tag stays as it is -/
theorem pexact_ok (d0 e0 : Char) (ds de : List Char) (F : List Rng) : ∀ (ps : List Piece) (L : List Token) (off : Nat),
    PExact ds de F ps L off → (∀ t ∈ L, TokShape d0 e0 ds de (t.kind, t.value)) → ∀ p ∈ ps, p.ok d0 e0 := by
  intro ps L off h
  fun_induction PExact ds de F ps L off with
  | case1 => exact fun _ p hp => nomatch hp
  | case2 v ps t L off ih =>
    obtain ⟨hk, hv, h⟩ := h
    intro hsh p hp
    rcases List.mem_cons.mp hp with rfl | hp
    · have hsht := hsh t List.mem_cons_self
      simp only [TokShape, hk] at hsht
      intro c hc
      have : ABy.lead c ∈ bytesOf t.value :=
        (minusFrom_sublist _ off F).subset (hv ▸ (lead_mem_bytesOf_iff c v).mpr hc)
      exact hsht c ((lead_mem_bytesOf_iff c _).mp this)
    · exact ih h (fun u hu => hsh u (List.mem_cons_of_mem _ hu)) p hp
  | case3 b0 rest ps t L off ih =>
    obtain ⟨hk, hv, h⟩ := h
    intro hsh p hp
    rcases List.mem_cons.mp hp with rfl | hp
    · have hsht := hsh t List.mem_cons_self
      simp only [TokShape, hk] at hsht
      obtain ⟨b0', rest', hv', hrest'⟩ := hsht
      rw [hv] at hv'
      obtain ⟨_, e⟩ := List.cons.inj (List.append_cancel_left hv')
      rw [List.append_cancel_right e]
      exact hrest'
    · exact ih h (fun u hu => hsh u (List.mem_cons_of_mem _ hu)) p hp
  | case4 => exact h.elim

theorem pexact_prel (ds de : List Char) (F : List Rng) : ∀ (ps : List Piece) (L : List Token) (off : Nat),
    PExact ds de F ps L off → ∀ (pre : Bytes), pre.length = off →
    (∀ d, inAny F d = true → ∃ y, (pre ++ (L.map fun t => bytesOf t.value).flatten)[d]? = some y ∧ isWs y = true) →
    PRel ds de ps L := by
  intro ps L off h
  fun_induction PExact ds de F ps L off with
  | case1 => exact fun _ _ _ => trivial
  | case2 v ps t L off ih =>
    obtain ⟨hk, hv, h⟩ := h
    intro pre hpre hF
    subst hpre
    rw [List.map_cons, List.flatten_cons] at hF
    obtain ⟨v', hv', hnw⟩ := minusFrom_encoded F t.value pre.length (wsOnly_mid hF)
    rw [← bytesOf_inj v v' (hv.trans hv')] at hnw
    exact ⟨hk, hnw, ih h (pre ++ bytesOf t.value) (List.length_append) (by rwa [List.append_assoc])⟩
  | case3 b0 rest ps t L off ih =>
    obtain ⟨hk, hv, h⟩ := h
    intro pre hpre hF
    subst hpre
    rw [List.map_cons, List.flatten_cons] at hF
    exact ⟨hk, hv, ih h (pre ++ bytesOf t.value) (List.length_append) (by rwa [List.append_assoc])⟩
  | case4 => exact h.elim

/-- tokens of a well-delimited text, whitespace deleted outside the cores: again a well-delimited text,
    and `PExact` records for every token what was deleted inside it -/
theorem pieces_exact (d0 : Char) (dr : List Char) (e0 : Char) (er : List Char) (hd0 : wsChar d0 = false)
    (hel : ∀ w c, (e0 :: er) = w ++ [c] → wsChar c = false) (F : List Rng) (K : Bytes)
    (hF : ∀ d, inAny F d = true → ∃ y, K[d]? = some y ∧ isWs y = true) :
    ∀ (L : List Token) (off : Nat) (pre : Bytes),
    K = pre ++ (L.map fun t => bytesOf t.value).flatten → pre.length = off →
    (∀ t ∈ L, TokShape d0 e0 (d0 :: dr) (e0 :: er) (t.kind, t.value)) →
    CoresKept F (layoutOf (L.map fun t => bytesOf t.value)) off →
    ∃ ps, (∀ p ∈ ps, p.ok d0 e0) ∧
      bytesOf (renderAll (d0 :: dr) (e0 :: er) ps) = minusFrom (L.map fun t => bytesOf t.value).flatten off F ∧
      PExact (d0 :: dr) (e0 :: er) F ps L off := by
  intro L off pre hK hpre hsh hck
  subst hK hpre
  obtain ⟨ps, p2, p5⟩ := pieces_core (d0 :: dr) (e0 :: er) F L pre hF (fun t ht hk => by
    have := hsh t ht
    simp only [TokShape, hk] at this
    obtain ⟨b0, rest, hv, _⟩ := this
    exact ⟨⟨b0, rest, hv⟩, hv ▸ edgeOK_delims d0 dr e0 er hd0 hel (b0 :: rest)⟩) hck
  exact ⟨ps, pexact_ok d0 e0 _ _ F ps L _ p5 hsh, p2, p5⟩

/-- tokens of a well-delimited text, whitespace deleted outside the cores: again a well-delimited text,
    with the same tags -/
theorem pieces_after (d0 : Char) (dr : List Char) (e0 : Char) (er : List Char) (hd0 : wsChar d0 = false)
    (hel : ∀ w c, (e0 :: er) = w ++ [c] → wsChar c = false) (F : List Rng) (K : Bytes)
    (hF : ∀ d, inAny F d = true → ∃ y, K[d]? = some y ∧ isWs y = true) :
    ∀ (L : List Token) (off : Nat) (pre : Bytes),
    K = pre ++ (L.map fun t => bytesOf t.value).flatten → pre.length = off →
    (∀ t ∈ L, TokShape d0 e0 (d0 :: dr) (e0 :: er) (t.kind, t.value)) →
    CoresKept F (layoutOf (L.map fun t => bytesOf t.value)) off →
    ∃ ps, (∀ p ∈ ps, p.ok d0 e0) ∧
      bytesOf (renderAll (d0 :: dr) (e0 :: er) ps) = minusFrom (L.map fun t => bytesOf t.value).flatten off F ∧
      tagsOf (d0 :: dr) (e0 :: er) ps = tagValues L ∧ PRel (d0 :: dr) (e0 :: er) ps L := by
  intro L off pre hK hpre hsh hck
  obtain ⟨ps, p1, p2, p5⟩ := pieces_exact d0 dr e0 er hd0 hel F K hF L off pre hK hpre hsh hck
  exact ⟨ps, p1, p2, (Props.C18.pexact_tags _ _ F ps L off p5).2, pexact_prel _ _ F ps L off p5 pre hpre (hK ▸ hF)⟩

end Chiritori
