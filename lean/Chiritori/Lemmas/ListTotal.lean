import Chiritori.Lemmas.Totality
import Chiritori.Lemmas.CollectAll
import Chiritori.Lemmas.Pending
import Chiritori.Model.Api
/-
  Totality of the two listing functions (the four listing conjuncts of `Props.C01.Statement`):
  `build_pretty_string_item` cannot fail on a non-empty boundary-aligned region, hence neither can `list` /
  `list_all`, pretty or JSON.
-/
namespace Chiritori
open Spec

theorem slice_ok (b : Bytes) (a z : Nat) (ha : BPos b a) (hz : BPos b z) (h : a ≤ z) :
    slice b a z = .ok ((b.take z).drop a) :=
  if_pos ((validRange_iff b a z).mpr ⟨h, hz.2, ha.1, hz.1⟩)

/-- the backward scan never looks at the first byte, hence `0 < i` in the last clause -/
theorem lineStartOf_facts (b : Bytes) (pos : Nat) (hpos : pos ≤ b.length) :
    lineStartOf b pos ≤ pos ∧
    (lineStartOf b pos = 0 ∨ 0 < lineStartOf b pos ∧ b[lineStartOf b pos - 1]? = some NL) ∧
    ∀ i, lineStartOf b pos ≤ i → i < pos → 0 < i → b[i]? ≠ some NL := by
  unfold lineStartOf
  cases h : findPrevLB b pos false with
  | none => exact ⟨Nat.zero_le _, Or.inl rfl, fun i _ hi h0 => findPrevLB_none_false b pos hpos h i h0 hi⟩
  | some v =>
    obtain ⟨_, g2, _, g4, g5, _⟩ := findPrevLB_some _ _ _ _ h
    exact ⟨g2, Or.inr ⟨Nat.succ_pos v, g4⟩, fun i hi1 hi2 _ => g5 i hi1 hi2⟩

/-- the forward scan finds nothing from position 0, hence `0 < pos` in the last clause -/
theorem lineEndOf_facts (b : Bytes) (pos : Nat) (hpos : pos ≤ b.length) :
    pos ≤ lineEndOf b pos ∧ lineEndOf b pos ≤ b.length ∧
    (lineEndOf b pos = b.length ∨ b[lineEndOf b pos]? = some NL) ∧
    (0 < pos → ∀ i, pos ≤ i → i < lineEndOf b pos → b[i]? ≠ some NL) := by
  unfold lineEndOf
  cases h : findNextLB b pos false with
  | none => exact ⟨hpos, Nat.le_refl _, Or.inl rfl, fun h0 i hi _ => findNextLB_none_false b pos h0 h i hi⟩
  | some v =>
    obtain ⟨_, g2, g3, g4, g5, _⟩ := findNextLB_some _ _ _ _ h
    exact ⟨g2, Nat.le_of_lt g3, Or.inr g4, fun _ => g5⟩

theorem lineStart_facts (s : List Char) (pos : Nat) (hpos : pos ≤ blen s) :
    BPos (bytesOf s) (lineStartOf (bytesOf s) pos) ∧ lineStartOf (bytesOf s) pos ≤ pos := by
  obtain ⟨h1, h2, _⟩ := lineStartOf_facts (bytesOf s) pos (by rwa [bytesOf_length])
  refine ⟨?_, h1⟩
  rcases h2 with h0 | ⟨h0, hnl⟩
  · exact h0 ▸ BPos_zero s
  · exact Nat.sub_add_cancel h0 ▸ BPos_after_nl s _ hnl

theorem lineEnd_facts (s : List Char) (pos : Nat) (hpos : pos ≤ blen s) :
    BPos (bytesOf s) (lineEndOf (bytesOf s) pos) ∧ pos ≤ lineEndOf (bytesOf s) pos := by
  obtain ⟨h1, _, h3, _⟩ := lineEndOf_facts (bytesOf s) pos (by rwa [bytesOf_length])
  exact ⟨h3.elim (fun h => h ▸ BPos_len _) (BPos_of_lead s _ _), h1⟩

theorem colorEndOf_cases (b : Bytes) (start stop le : Nat) :
    (colorEndOf b start stop le = min stop le - 1 ∧ min stop le = le ∧ start < min stop le ∧
      b[min stop le - 1]? = some (.lead '\r')) ∨
    (colorEndOf b start stop le = min stop le ∧
      ¬ (min stop le = le ∧ start < min stop le ∧ b[min stop le - 1]? = some (.lead '\r'))) := by
  unfold colorEndOf
  dsimp only
  split
  · exact Or.inl ⟨rfl, ‹_›⟩
  · exact Or.inr ⟨rfl, ‹_›⟩

theorem colorEnd_facts (s : List Char) (start stop le : Nat) (h2 : BPos (bytesOf s) stop) (c1 : BPos (bytesOf s) le)
    (hlt : start < stop) (c2 : stop - 1 ≤ le) :
    BPos (bytesOf s) (colorEndOf (bytesOf s) start stop le) ∧ start ≤ colorEndOf (bytesOf s) start stop le ∧
      colorEndOf (bytesOf s) start stop le ≤ le := by
  have hm : start ≤ min stop le ∧ min stop le ≤ le :=
    ⟨Nat.le_min.mpr ⟨Nat.le_of_lt hlt, Nat.le_trans (Nat.le_sub_one_of_lt hlt) c2⟩, Nat.min_le_right _ _⟩
  rcases colorEndOf_cases (bytesOf s) start stop le with ⟨e, _, g2, g3⟩ | ⟨e, _⟩
  · rw [e]
    exact ⟨BPos_of_lead s _ _ g3, Nat.le_sub_one_of_lt g2, Nat.le_trans (Nat.sub_le _ _) hm.2⟩
  · rw [e]
    exact ⟨prop_min (P := BPos (bytesOf s)) h2 c1, hm⟩

theorem countTabs_slice_le (b : Bytes) (a z : Nat) : countTabs ((b.take z).drop a) ≤ z - a := by
  refine Nat.le_trans (List.length_filter_le _ _) ?_
  rw [List.length_drop, List.length_take]
  exact Nat.sub_le_sub_right (Nat.min_le_left _ _) _

/-- the geometry `build_pretty_string_item` computes for a non-empty region whose ends are character boundaries:
    never a panic, and these slices and paddings -/
def geomOf (b : Bytes) (start stop : Nat) (lineRange : Option (Nat × Nat)) : ItemGeom :=
  let ls := lineStartOf b start
  let les := lineStartOf b (stop - 1)
  let le := lineEndOf b (stop - 1)
  let ce := colorEndOf b start stop le
  ⟨(b.take start).drop ls, (b.take ce).drop start, (b.take le).drop ce,
   countTabs ((b.take start).drop ls), lnoOf lineRange + (start - ls) - countTabs ((b.take start).drop ls),
   countTabs ((b.take stop).drop les), stop - les - 1 + lnoOf lineRange - countTabs ((b.take stop).drop les)⟩

/-- why none of the subtractions of `build_pretty_string_item` goes below zero: the line starts `ls`, `les` are not
    behind the region's ends, the line end `le` is not in front of its last byte, and the slices have no more tabs
    (`ta`, `tb`) than bytes -/
theorem itemGeom_arith {start stop ls les le ta tb lno : Nat} (hlt : start < stop) (a2 : ls ≤ start)
    (b2 : les ≤ stop - 1) (c2 : stop - 1 ≤ le) (t1 : ta ≤ start - ls) (t2 : tb ≤ stop - les) (hl : 1 ≤ lno) :
    ls ≤ le ∧ les ≤ stop ∧ 1 ≤ stop - les ∧ ta ≤ lno + (start - ls) ∧ tb ≤ stop - les - 1 + lno := by
  have h3 : 1 ≤ stop - les := Nat.sub_pos_of_lt (Nat.lt_of_le_of_lt b2 (Nat.sub_one_lt_of_lt hlt))
  exact ⟨Nat.le_trans a2 (Nat.le_trans (Nat.le_sub_one_of_lt hlt) c2), Nat.le_trans b2 (Nat.sub_le _ _), h3,
    Nat.le_trans t1 (Nat.le_add_left _ _),
    Nat.le_trans t2 (Nat.le_trans (Nat.le_of_eq (Nat.sub_add_cancel h3).symm) (Nat.add_le_add_left hl _))⟩

theorem itemGeom_ok (s : List Char) (start stop : Nat) (lr : Nat × Nat)
    (h1 : BPos (bytesOf s) start) (h2 : BPos (bytesOf s) stop) (hlt : start < stop) :
    itemGeom (bytesOf s) start stop (some lr) = .ok (some (geomOf (bytesOf s) start stop (some lr))) := by
  have hstop : stop ≤ blen s := by simpa using h2.2
  obtain ⟨a1, a2⟩ := lineStart_facts s start (by omega)
  obtain ⟨b1, b2⟩ := lineStart_facts s (stop - 1) (by omega)
  obtain ⟨c1, c2⟩ := lineEnd_facts s (stop - 1) (by omega)
  obtain ⟨hce, hce1, hce2⟩ := colorEnd_facts s start stop _ h2 c1 hlt c2
  have t1 := countTabs_slice_le (bytesOf s) (lineStartOf (bytesOf s) start) start
  have t2 := countTabs_slice_le (bytesOf s) (lineStartOf (bytesOf s) (stop - 1)) stop
  have hne : ¬ (stop - start = 0 ∨ (bytesOf s).isEmpty = true) := by
    rw [List.isEmpty_iff, ← List.length_eq_zero_iff, bytesOf_length]
    omega
  have ar := itemGeom_arith hlt a2 b2 c2 t1 t2 (Nat.le_of_ble_eq_true rfl : 1 ≤ lnoOf (some lr))
  simp only [itemGeom, geomOf, bind, Except.bind, pure, Except.pure, subU_ok _ _ (Nat.le_of_lt hlt), if_neg hne,
    subU_ok _ _ ar.1, subU_ok _ _ a2, subU_ok _ _ ar.2.1, subU_ok _ _ ar.2.2.1, subU_ok _ _ ar.2.2.2.1, subU_ok _ _ ar.2.2.2.2,
    slice_ok _ _ _ a1 h1 a2, slice_ok _ _ _ h1 hce hce1, slice_ok _ _ _ hce c1 hce2,
    slice_ok _ _ _ b1 h2 ar.2.1]

/-- `build_pretty_string_item` returns for every non-empty region whose ends are character boundaries -/
theorem buildItem_total (s : List Char) (start stop : Nat) (isRemoval coloring : Bool) (lr : Nat × Nat)
    (h1 : BPos (bytesOf s) start) (h2 : BPos (bytesOf s) stop) (hlt : start < stop) :
    ∃ r, buildItem (bytesOf s) start stop isRemoval coloring (some lr) = .ok r := by
  unfold buildItem
  rw [itemGeom_ok s start stop lr h1 h2 hlt]
  exact ⟨_, rfl⟩

/-- a region list every listing function can render -/
def Renderable (b : Bytes) (ms : List (Marker × Bool)) : Prop :=
  ∀ x ∈ ms, BPos b x.1.start ∧ BPos b x.1.stop ∧ x.1.start < x.1.stop

theorem getLineRange_ok (lm : List Nat) (start stop : Nat) (h : start < stop) :
    getLineRange lm start stop = .ok (findLine lm start, findLine lm (stop - 1)) := by
  simp only [getLineRange, bind, Except.bind, subU, pure, Except.pure]
  rw [if_pos (by omega)]

theorem prettyItems_total (s : List Char) (lm : List Nat) : ∀ (ms : List (Marker × Bool)) (idx : Nat),
    Renderable (bytesOf s) ms → ∃ r, prettyItems (bytesOf s) lm ms idx = .ok r
  | [], _, _ => ⟨[], rfl⟩
  | (m, f) :: rest, idx, h => by
    obtain ⟨g1, g2, g3⟩ := h (m, f) (by simp)
    obtain ⟨item, hi⟩ := buildItem_total s m.start m.stop f true (findLine lm m.start, findLine lm (m.stop - 1)) g1 g2 g3
    obtain ⟨tail, ht⟩ := prettyItems_total s lm rest (idx + 1) (fun x hx => h x (by simp [hx]))
    simp only [prettyItems, getLineRange_ok lm _ _ g3, hi, ht]
    exact ⟨_, rfl⟩

theorem buildList_total (s : List Char) (lm : List Nat) : ∀ (ms : List (Marker × Bool)),
    Renderable (bytesOf s) ms → ∃ r, buildList (bytesOf s) lm ms = .ok r
  | [], _ => ⟨[], rfl⟩
  | (m, f) :: rest, h => by
    obtain ⟨g1, g2, g3⟩ := h (m, f) (by simp)
    obtain ⟨item, hi⟩ := buildItem_total s m.start m.stop f false (findLine lm m.start, findLine lm (m.stop - 1)) g1 g2 g3
    obtain ⟨tail, ht⟩ := buildList_total s lm rest (fun x hx => h x (by simp [hx]))
    simp only [buildList, getLineRange_ok lm _ _ g3, hi, ht]
    exact ⟨_, rfl⟩

theorem renderList_total (s : List Char) (ms : List (Marker × Bool)) (json : Bool)
    (h : Renderable (bytesOf s) ms) : ∃ r, renderList s ms json = .ok r := by
  unfold renderList
  cases json with
  | true =>
    obtain ⟨items, hi⟩ := buildList_total s (buildLineMap (bytesOf s)) ms h
    simp only [hi, if_true]
    exact ⟨_, rfl⟩
  | false =>
    obtain ⟨r, hr⟩ := prettyItems_total s (buildLineMap (bytesOf s)) ms 1 h
    simp only [buildPrettyString, hr]
    exact ⟨_, rfl⟩

/-- the merged pending markers of a source: sorted, boundary-aligned, and covering exactly the extents of the
    elements that are registered, not skipped and whose condition does not hold -/
theorem pending_facts (src ds de : List Char) (cfg : Cfg) (hde : de ≠ []) :
    MSorted (mergeMarkers (collect cfg (bytesOf src) true (parseSource src ds de)).2 []) 0 (blen src) ∧
    MAll (BPos (bytesOf src)) (mergeMarkers (collect cfg (bytesOf src) true (parseSource src ds de)).2 []) ∧
    ∀ i, mcov (mergeMarkers (collect cfg (bytesOf src) true (parseSource src ds de)).2 []) i ↔
      inAny (pendingExtents cfg (bytesOf src) (parseSource src ds de)) i = true := by
  have hspan := parseSource_span src ds de hde
  obtain ⟨hs, hm⟩ := merge_spec.2 _ 0 (blen src) (collect_pending_geo cfg (bytesOf src) _ 0 (blen src) hspan (by simp))
  refine ⟨hs, (merge_P _).2 _ (collect_pending_RAll cfg src _ (parseSource_BPos src ds de hde)), fun i => ?_⟩
  rw [hm i, collect_pending_cov cfg (bytesOf src) _ 0 (blen src) hspan (by simp) i, pendingExtents_eq]

theorem renderable_of_markers (b : Bytes) (ms : List Marker) (lo hi : Nat) (hs : MSorted ms lo hi)
    (hb : MAll (BPos b) ms) : ∀ m ∈ ms, BPos b m.start ∧ BPos b m.stop ∧ m.start < m.stop :=
  fun m hm => ⟨(hb m hm).1, (hb m hm).2, (MSorted_bounds ms lo hi hs m hm).2.1⟩

theorem listMarkers_renderable (src ds de : List Char) (cfg : Cfg) (hde : de ≠ []) :
    Renderable (bytesOf src) (listMarkers src ds de cfg) := by
  obtain ⟨hs, hb, _⟩ := markers_facts src ds de cfg hde
  intro x hx
  obtain ⟨m, hm, rfl⟩ := List.mem_map.mp hx
  exact renderable_of_markers _ _ _ _ hs hb m hm

theorem listAllMarkers_renderable (src ds de : List Char) (cfg : Cfg) (hde : de ≠ []) :
    Renderable (bytesOf src) (listAllMarkers src ds de cfg) := by
  obtain ⟨hs, hb, _⟩ := markers_facts src ds de cfg hde
  obtain ⟨ps, pb, _⟩ := pending_facts src ds de cfg hde
  intro x hx
  have hx' : x ∈ mergePending (buildRemoveMarker cfg (bytesOf src) (parseSource src ds de))
      (mergeMarkers (collect cfg (bytesOf src) true (parseSource src ds de)).2 []) := by
    unfold listAllMarkers buildRemoveMarkerAll at hx
    unfold buildRemoveMarker
    rw [← collect_ready_indep]
    exact hx
  exact (mergePending_mem _ _ x hx').elim (renderable_of_markers _ _ _ _ hs hb _)
    (renderable_of_markers _ _ _ _ ps pb _)

theorem list_total (src ds de : List Char) (cfg : Cfg) (json : Bool) (hde : de ≠ []) :
    ∃ r, list src ds de cfg json = .ok r :=
  renderList_total src _ json (listMarkers_renderable src ds de cfg hde)

theorem listAll_total (src ds de : List Char) (cfg : Cfg) (json : Bool) (hde : de ≠ []) :
    ∃ r, listAll src ds de cfg json = .ok r :=
  renderList_total src _ json (listAllMarkers_renderable src ds de cfg hde)

end Chiritori
