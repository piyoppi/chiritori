import Chiritori.Spec.Holds
/-
  The recursive-descent parser: every token appears exactly once, in order.
-/
namespace Chiritori
open Spec

theorem flattenParts_append (a b : List Part) : flattenParts (a ++ b) = flattenParts a ++ flattenParts b := by
  induction a with
  | nil => simp [flattenParts]
  | cons p ps ih => simp [flattenParts, ih]

theorem flattenParts_cons_text (t : Token) (ps : List Part) : flattenParts (.text t :: ps) = t :: flattenParts ps := by
  simp [flattenParts, flattenPart]

theorem flattenParts_cons_element (el : Element) (st en : Token) (ch ps : List Part) :
    flattenParts (.element el st en ch :: ps) = st :: (flattenParts ch ++ en :: flattenParts ps) := by
  simp [flattenParts, flattenPart]

theorem elementsOf_append (a b : List Part) : elementsOf (a ++ b) = elementsOf a ++ elementsOf b := by
  induction a with
  | nil => simp [elementsOf]
  | cons p ps ih => simp [elementsOf, ih]

theorem forall_elements_cons {P : Element × Token × Token → Prop} {el : Element} {st en : Token} {ch ps : List Part} :
    (∀ e ∈ elementsOf (.element el st en ch :: ps), P e) ↔
      P (el, st, en) ∧ (∀ e ∈ elementsOf ch, P e) ∧ ∀ e ∈ elementsOf ps, P e := by
  simp only [elementsOf, elementsOfPart, List.cons_append, List.mem_cons, List.mem_append, or_imp, forall_and, forall_eq]

theorem tree_nil (ds de : List Char) (fuel : Nat) (parents : List (List Char)) :
    tree ds de fuel [] parents = ⟨[], [], none⟩ := by
  cases fuel <;> rfl

/-- `r` accounts for `toks`: they are its parts, then the closer that ended the level (it closes one of `parents`), then
    the rest - which is empty unless a closer was met -/
structure TreeOK (parents : List (List Char)) (toks : List Token) (r : TreeResult) : Prop where
  flat : flattenParts r.parts ++ (r.closer.map (·.1)).toList ++ r.rest = toks
  rest_nil : r.closer = none → r.rest = []
  closes : ∀ c ∈ r.closer, parents.any (· == trimSlashes c.2.name) = true

theorem TreeOK.rest_le {parents : List (List Char)} {toks : List Token} {r : TreeResult} (h : TreeOK parents toks r) :
    r.rest.length ≤ toks.length := by
  have := congrArg List.length h.flat
  simp only [List.length_append] at this
  omega

theorem tree_ok (ds de : List Char) (fuel : Nat) (toks : List Token) (parents : List (List Char))
    (hf : toks.length < fuel) : TreeOK parents toks (tree ds de fuel toks parents) := by
  fun_induction tree ds de fuel toks parents with
  | case1 => omega
  | case2 => exact ⟨rfl, fun _ => rfl, nofun⟩
  | case3 fuel t rest parents hel r ih =>
    obtain ⟨h1, h2, h3⟩ := ih (Nat.lt_of_succ_lt_succ hf)
    exact ⟨by rw [flattenParts_cons_text]; exact congrArg (t :: ·) h1, h2, h3⟩
  | case4 fuel t rest parents el hel hcl =>
    exact ⟨rfl, nofun, by rintro _ ⟨⟩; exact hcl.2⟩
  | case5 fuel t rest parents el hel hcl inner et eel hc hname r ihi ihr =>
    have hf := Nat.lt_of_succ_lt_succ hf
    obtain ⟨i1, -, -⟩ : TreeOK _ rest inner := ihi hf
    rw [hc] at i1
    obtain ⟨r1, r2, r3⟩ : TreeOK _ _ r := ihr (Nat.lt_of_le_of_lt (ihi hf).rest_le hf)
    refine ⟨?_, r2, r3⟩
    simp only [flattenParts_cons_element]
    rw [← i1, ← r1]
    simp
  | case6 fuel t rest parents el hel hcl inner et eel hc hname ihi =>
    obtain ⟨i1, -, i3⟩ : TreeOK _ rest inner := ihi (Nat.lt_of_succ_lt_succ hf)
    rw [hc] at i1
    refine ⟨by simp only [flattenParts_cons_text]; exact congrArg (t :: ·) i1, nofun, ?_⟩
    rintro _ ⟨⟩
    -- the closer closes a parent of the inner level, and not the opener `t`
    have := i3 (et, eel) hc
    simp only [List.any_append, List.any_cons, List.any_nil, Bool.or_false, Bool.or_eq_true, beq_iff_eq] at this
    exact this.resolve_right hname
  | case7 fuel t rest parents el hel hcl inner hc r ihi ihr =>
    obtain ⟨i1, i2, -⟩ : TreeOK _ rest inner := ihi (Nat.lt_of_succ_lt_succ hf)
    -- the inner level ran to the end of the input: nothing is left for the continuation
    have hr : r = ⟨[], [], none⟩ := by
      show tree ds de fuel inner.rest parents = _
      rw [i2 hc, tree_nil]
    rw [hc, i2 hc] at i1
    rw [hr]
    exact ⟨by simpa [flattenParts_cons_text] using i1, fun _ => rfl, nofun⟩

/-- C10, last sentence: every token appears exactly once, in document order, in the tree. -/
theorem parse_flatten (ds de : List Char) (toks : List Token) : flattenParts (parse ds de toks) = toks := by
  obtain ⟨h1, h2, h3⟩ := tree_ok ds de (toks.length + 1) toks [] (by omega)
  cases hc : (tree ds de (toks.length + 1) toks []).closer with
  | none => rw [hc, h2 hc] at h1; simpa [parse] using h1
  | some c => simpa using h3 c hc

end Chiritori
