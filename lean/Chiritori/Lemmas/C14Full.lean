import Chiritori.Lemmas.Koff
import Chiritori.Lemmas.CollectBodies
import Chiritori.Lemmas.Pending
import Chiritori.Lemmas.Laminar
/-
  C14 with unwrapped blocks: a line of the text after removal that begins strictly between the two seams of a
  marker pair begins behind a line break of the source that stands in the body of the unwrapped element the pair
  came from, so a piece ends there.
-/
namespace Chiritori
open Spec

theorem MSorted_index_le : ∀ (ms : List Marker) (lo hi : Nat), MSorted ms lo hi →
    ∀ (i j : Nat) (mi mj : Marker), i < j → ms[i]? = some mi → ms[j]? = some mj → mi.stop ≤ mj.start
  | [], _, _, _, i, j, mi, mj, _, h1, _ => by simp at h1
  | m :: ms, lo, hi, hs, i, j, mi, mj, hij, h1, h2 => by
    obtain ⟨g1, g2, g3⟩ := hs
    cases j with
    | zero => omega
    | succ j =>
      simp only [List.getElem?_cons_succ] at h2
      cases i with
      | zero =>
        simp only [List.getElem?_cons_zero, Option.some.injEq] at h1
        subst h1
        exact MSorted_starts_ge ms _ hi g3 mj (List.mem_of_getElem? h2)
      | succ i =>
        simp only [List.getElem?_cons_succ] at h1
        exact MSorted_index_le ms m.stop hi g3 i j mi mj (by omega) h1 h2

theorem markers_pairBody (src ds de : List Char) (cfg : Cfg) (hde : de ≠ []) :
    PairBody (unwrappedBodies cfg (bytesOf src) (parseSource src ds de))
      (buildRemoveMarker cfg (bytesOf src) (parseSource src ds de)) := by
  have hspan := parseSource_span src ds de hde
  obtain ⟨hgeo, _⟩ := collect_spec cfg (bytesOf src) (parseSource src ds de) 0 (blen src) hspan (by simp)
  apply mergeMarkers_pairBody _ 0 (blen src) [] _ hgeo (by simp [PV]) (by intro i j mi mj h1; simp at h1)
  intro x hx
  obtain ⟨e, he, hxe⟩ := collect_bodies cfg (bytesOf src) _ 0 (blen src) hspan (by simp) x hx
  rw [unwrappedBodies_eq]
  exact List.mem_flatMap.mpr ⟨e, he, hxe⟩

/-- a line break of the text after removal between the offsets of the two markers of a pair comes from a source
    position between the markers, hence inside the body -/
theorem pieces_end_between (ext bodies : List Rng) (b : Bytes) (M : List Marker) (hi : Nat) (hs : MSorted M 0 hi)
    (hcov : ∀ i, mcov M i → inAny ext i = true) (hpb : PairBody bodies M)
    (i j : Nat) (mi mj : Marker) (hmi : M[i]? = some mi) (hmj : M[j]? = some mj) (hpair : mi.pair = some j)
    (l : Nat) (h1 : koffTo ext b mi.start ≤ l) (h2 : l < koffTo ext b mj.start)
    (hnl : (keptOf ext b.zipIdx)[l]? = some (.lead '\n')) :
    l + 1 ∈ segEnds (piecesAux ext bodies b.zipIdx []) 0 := by
  have hij : i < j := by
    rcases Nat.lt_trichotomy i j with h | h | h
    · exact h
    · rw [h, hmj] at hmi
      cases hmi
      omega
    · have := koffTo_mono ext b mj.start mi.start (Nat.le_trans
        (Nat.le_of_lt (MSorted_bounds M 0 hi hs mj (List.mem_of_getElem? hmj)).2.1)
        (MSorted_index_le M 0 hi hs j i mj mi h hmj hmi))
      omega
  obtain ⟨body, hbody, hb1, hb2⟩ := hpb i j mi mj hmi hpair hij hmj
  obtain ⟨n, hn, hout, rfl⟩ := (keptOf_getElem? ext b l _).mp hnl
  obtain ⟨g1, g2⟩ := between_markers_of_koffTo ext b mi.start mi.stop mj.start n (lt_of_getElem?_some _ _ _ hn) hout
    (fun x x1 x2 => hcov x ⟨mi, List.mem_of_getElem? hmi, x1, x2⟩) h1 h2
  exact pieces_end_nl ext bodies b n hn hout
    ((inAny_iff bodies n).mpr ⟨body, hbody, Nat.le_trans hb1 g1, Nat.lt_of_lt_of_le g2 hb2⟩)

end Chiritori
