import Chiritori.Lemmas.Unwrapped
import Chiritori.Lemmas.PruneBytes
import Chiritori.Props.C11
import Chiritori.Lemmas.Induction
/-
  Which tags survive the removal when blocks are unwrapped: in a forest without stray tags, in which every ready
  unwrap-block can be unwrapped and has no tag on its wrapper lines, the tags the ready extents do not cover are the tags
  of the forest with the ready default elements taken out and the ready unwrap-blocks replaced by their children.
-/
namespace Chiritori
open Spec

def isTagTok (t : Token) : Bool := decide (t.kind = .element)
def isDefaultReady (cfg : Cfg) (el : Element) : Bool := conditionHolds cfg el && !hasAttr el "unwrap-block"
def isUnwrapReady (cfg : Cfg) (el : Element) : Bool := conditionHolds cfg el && hasAttr el "unwrap-block"

mutual
/-- no tag token is left as text (every opening tag has its closing tag and vice versa) -/
def NoStray : List Part → Prop
  | [] => True
  | p :: ps => NoStrayP p ∧ NoStray ps
def NoStrayP : Part → Prop
  | .text t => t.kind = .text
  | .element _ st en ch => st.kind = .element ∧ en.kind = .element ∧ NoStray ch
end

mutual
/-- every ready unwrap-block can be unwrapped, and the elements inside it lie between its two parts: none begins before
    the opening part ends, each ends before the closing part begins (tags left as text are not constrained) -/
def ReadyShape (cfg : Cfg) (b : Bytes) : List Part → Prop
  | [] => True
  | p :: ps => ReadyShapeP cfg b p ∧ ReadyShape cfg b ps
def ReadyShapeP (cfg : Cfg) (b : Bytes) : Part → Prop
  | .text _ => True
  | .element el st en ch =>
    (conditionHolds cfg el = true → hasAttr el "unwrap-block" = true →
      ∃ h t, unwrapParts b st en = some (h, t) ∧ ∀ e ∈ elementsOf ch, h.2 ≤ e.2.1.bstart ∧ e.2.2.bstop < t.1) ∧
    ReadyShape cfg b ch
end

theorem unwrapParts_pos (b : Bytes) (st en : Token) (h t : Rng) (h0 : 0 < st.bstop) (hlen : en.bstart ≤ b.length)
    (hu : unwrapParts b st en = some (h, t)) :
    h.1 = st.bstart ∧ st.bstop < h.2 ∧ h.2 < t.1 ∧ t.1 < en.bstart + 1 ∧ t.2 = en.bstop ∧
      b[h.2]? = some NL ∧ b[t.1 - 1]? = some NL := by
  obtain ⟨p1, q1, a1, _, _, a4, a5, _, a7, _, _, a10, a11, _, a13, a14, a15⟩ := Props.C11.parts_lines b st en h t h0 hlen hu
  exact ⟨a13, by omega, a15, by omega, a14, a5, a11⟩

theorem elementPart_tags_ordered : ∀ (p : Part) (lo hi : Nat), BSpan (flattenPart p) lo hi →
    ∀ e ∈ elementsOfPart p, e.2.1.bstart < e.2.1.bstop ∧ e.2.1.bstop ≤ e.2.2.bstart ∧ e.2.2.bstart < e.2.2.bstop :=
  fun p lo hi hs e he => (BSpan_elements.1 p lo hi hs e he).2.imp_right fun h => ⟨h.1, h.2.1⟩

theorem mem_readyExtents {cfg : Cfg} {b : Bytes} {parts : List Part} {r : Rng} :
    r ∈ readyExtents cfg b parts ↔
      ∃ e ∈ elementsOf parts, conditionHolds cfg e.1 = true ∧ r ∈ extentOf b e.1 e.2.1 e.2.2 := by
  simp only [readyExtents, List.mem_flatMap]
  refine exists_congr fun e => and_congr_right fun _ => ?_
  obtain ⟨el, st, en⟩ := e
  by_cases hc : conditionHolds cfg el = true <;> simp [hc]

theorem mem_extentOf {b : Bytes} {el : Element} {st en : Token} {r : Rng} (hr : r ∈ extentOf b el st en) :
    r = (st.bstart, en.bstop) ∨ ∃ h t, unwrapParts b st en = some (h, t) ∧ (r = h ∨ r = t) := by
  unfold extentOf at hr
  split at hr
  · cases hu : unwrapParts b st en with
    | none => simp [hu] at hr
    | some ht => exact Or.inr ⟨ht.1, ht.2, rfl, by simpa [hu] using hr⟩
  · split at hr
    · exact Or.inl (List.mem_singleton.mp hr)
    · cases hr

theorem extentOf_within (b : Bytes) (el : Element) (st en : Token) (hst : st.bstart < st.bstop)
    (hen : en.bstart < en.bstop) (hlen : en.bstart ≤ b.length) :
    ∀ r ∈ extentOf b el st en, st.bstart ≤ r.1 ∧ r.2 ≤ en.bstop := by
  intro r hr
  rcases mem_extentOf hr with rfl | ⟨h, t, hu, hr⟩
  · exact ⟨Nat.le_refl _, Nat.le_refl _⟩
  · obtain ⟨p1, p2, p3, p4, p5, _, _⟩ := unwrapParts_pos b st en h t (by omega) hlen hu
    rcases hr with rfl | rfl <;> omega

theorem extents_within_u (cfg : Cfg) (b : Bytes) (parts : List Part) (lo hi : Nat)
    (hs : BSpan (flattenParts parts) lo hi) (hl : hi ≤ b.length) :
    ∀ i, inAny (extentsOfParts cfg b parts) i = true → lo ≤ i ∧ i < hi := by
  intro i hi'
  rw [← readyExtents_eq, inAny_iff] at hi'
  obtain ⟨r, hr, h1, h2⟩ := hi'
  obtain ⟨e, he, _, hr⟩ := mem_readyExtents.mp hr
  have hsp := BSpan_elements.2 parts lo hi hs e he
  have := extentOf_within b e.1 e.2.1 e.2.2 hsp.2.1 hsp.2.2.2.1 (by omega) r hr
  omega

theorem tag_of_element (parts : List Part) : NoStray parts → ∀ t ∈ flattenParts parts, t.kind = .element →
    ∃ e ∈ elementsOf parts, t = e.2.1 ∨ t = e.2.2 := by
  induction parts using parts_induction with
  | nil => intro _ t ht; cases ht
  | text u rest ih =>
    intro hn t ht hk
    rcases List.mem_cons.mp (by simpa [flattenParts, flattenPart] using ht) with rfl | ht
    · exact absurd (hn.1 ▸ hk) (by simp)
    · exact ih hn.2 t ht hk
  | element el st en ch rest ihc ihr =>
    intro hn t ht hk
    rw [show elementsOf (.element el st en ch :: rest) = (el, st, en) :: (elementsOf ch ++ elementsOf rest) from rfl]
    simp only [flattenParts, flattenPart, List.cons_append, List.mem_cons, List.mem_append, List.not_mem_nil,
      or_false] at ht
    rcases ht with rfl | (ht | rfl) | ht
    · exact ⟨_, List.mem_cons_self .., Or.inl rfl⟩
    · obtain ⟨e, he, hte⟩ := ihc hn.1.2.2 t ht hk
      exact ⟨e, List.mem_cons_of_mem _ (List.mem_append_left _ he), hte⟩
    · exact ⟨_, List.mem_cons_self .., Or.inr rfl⟩
    · obtain ⟨e, he, hte⟩ := ihr hn.2 t ht hk
      exact ⟨e, List.mem_cons_of_mem _ (List.mem_append_right _ he), hte⟩

theorem spliceParts_append (P : Element → Bool) : ∀ (a c : List Part),
    spliceParts P (a ++ c) = spliceParts P a ++ spliceParts P c
  | [], c => rfl
  | x :: xs, c => by simp [spliceParts, spliceParts_append P xs c]

theorem inAny_false_of_within {rs : List Rng} {lo hi i : Nat} (h : ∀ i, inAny rs i = true → lo ≤ i ∧ i < hi)
    (hi' : i < lo ∨ hi ≤ i) : inAny rs i = false := by
  cases hq : inAny rs i with
  | false => rfl
  | true => have := h i hq; omega

theorem ready_cases (cfg : Cfg) (el : Element) :
    (conditionHolds cfg el = true ∧ hasAttr el "unwrap-block" = true ∧
      isUnwrapReady cfg el = true ∧ isDefaultReady cfg el = false) ∨
    (conditionHolds cfg el = true ∧ hasAttr el "unwrap-block" = false ∧
      isUnwrapReady cfg el = false ∧ isDefaultReady cfg el = true) ∨
    (conditionHolds cfg el = false ∧ isUnwrapReady cfg el = false ∧ isDefaultReady cfg el = false) := by
  cases hc : conditionHolds cfg el <;> cases hu : hasAttr el "unwrap-block" <;> simp [isUnwrapReady, isDefaultReady, hc, hu]

theorem unwrapParts_cover (b : Bytes) (st en : Token) (h t : Rng) (hst : st.bstart < st.bstop)
    (hen : en.bstart < en.bstop) (hlen : en.bstart ≤ b.length) (hu : unwrapParts b st en = some (h, t)) :
    inAny [h, t] st.bstart = true ∧ inAny [h, t] en.bstart = true ∧
      ∀ i, h.2 ≤ i → i < t.1 → inAny [h, t] i = false := by
  obtain ⟨p1, p2, p3, p4, p5, _, _⟩ := unwrapParts_pos b st en h t (by omega) hlen hu
  refine ⟨(inAny_iff _ _).mpr ⟨h, by simp, by omega, by omega⟩,
    (inAny_iff _ _).mpr ⟨t, by simp, by omega, by omega⟩, fun i h1 h2 => Bool.eq_false_iff.mpr fun hq => ?_⟩
  obtain ⟨r, hr, _, _⟩ := (inAny_iff _ _).mp hq
  simp only [List.mem_cons, List.not_mem_nil, or_false] at hr
  rcases hr with rfl | rfl <;> omega

theorem tag_in_element (parts : List Part) (lo hi : Nat) (hs : BSpan (flattenParts parts) lo hi)
    (e : Element × Token × Token) (he : e ∈ elementsOf parts) (t : Token) (ht : t = e.2.1 ∨ t = e.2.2) :
    e.2.1.bstart ≤ t.bstart ∧ t.bstart < e.2.2.bstop := by
  have := BSpan_elements.2 parts lo hi hs e he
  rcases ht with rfl | rfl <;> omega

theorem kept_tags_both (cfg : Cfg) (b : Bytes) (X : List Rng) :
    (∀ (p : Part) (lo hi : Nat), BSpan (flattenPart p) lo hi → hi ≤ b.length → NoStrayP p → ReadyShapeP cfg b p →
      (∀ t ∈ flattenPart p, t.kind = .element → inAny X t.bstart = inAny (extentsOfPart cfg b p) t.bstart) →
      (flattenParts (spliceParts (isUnwrapReady cfg) (prunePart (isDefaultReady cfg) p))).filter isTagTok =
        (flattenPart p).filter (fun t => isTagTok t && !inAny X t.bstart)) ∧
    ∀ (parts : List Part) (lo hi : Nat), BSpan (flattenParts parts) lo hi → hi ≤ b.length → NoStray parts →
      ReadyShape cfg b parts →
      (∀ t ∈ flattenParts parts, t.kind = .element → inAny X t.bstart = inAny (extentsOfParts cfg b parts) t.bstart) →
      (flattenParts (spliceParts (isUnwrapReady cfg) (pruneParts (isDefaultReady cfg) parts))).filter isTagTok =
        (flattenParts parts).filter (fun t => isTagTok t && !inAny X t.bstart) := by
  apply part_parts_induction
  · intro t lo hi _ _ hn _ _
    simp [prunePart, spliceParts, splicePart, flattenParts, flattenPart, isTagTok, show t.kind = .text from hn]
  · intro el st en ch ih lo hi hs hl ⟨hkst, hken, hnch⟩ ⟨hr1, hr2⟩ hX
    have hmem := BSpan_mem _ lo hi hs
    obtain ⟨hst, hst2, hmid, hch, hen2, hen3, hml⟩ := BSpan_element el st en ch lo hi b.length hs hl
    have hlt : st.bstart < en.bstop := Nat.lt_of_lt_of_le hst2 (Nat.le_trans hmid (Nat.le_of_lt hen2))
    have hcw := extents_within_u cfg b ch st.bstop en.bstart hch hml
    have ih := ih st.bstop en.bstart hch hml hnch hr2
    have htst : isTagTok st = true := by simp [isTagTok, hkst]
    have hten : isTagTok en = true := by simp [isTagTok, hken]
    -- what the extents of the element itself cover, the extents of its children being inside it
    have hXst := hX st (by simp [flattenPart]) hkst
    have hXen := hX en (by simp [flattenPart]) hken
    have hXch : ∀ t ∈ flattenParts ch, t.kind = .element → inAny X t.bstart =
        inAny (extentsOfPart cfg b (.element el st en ch)) t.bstart := fun t ht => hX t (by simp [flattenPart, ht])
    simp only [extentsOfPart, inAny_append] at hXst hXen hXch
    rw [inAny_false_of_within hcw (Or.inl hst2), Bool.or_false] at hXst
    rw [inAny_false_of_within hcw (Or.inr (Nat.le_refl _)), Bool.or_false] at hXen
    rcases ready_cases cfg el with ⟨hc, hu, hpu, hpd⟩ | ⟨hc, hu, hpu, hpd⟩ | ⟨hc, hpu, hpd⟩
    · -- unwrapped: the two tags go with the two parts, the tags of the children lie between the parts
      obtain ⟨hh, tt, hup, hwf⟩ := hr1 hc hu
      obtain ⟨c1, c2, c3⟩ := unwrapParts_cover b st en hh tt hst2 hen2 hml hup
      simp only [hc, if_true, extentOf, hu, hup] at hXst hXen hXch
      have ihc := ih fun t ht hk => by
        obtain ⟨e, he, hte⟩ := tag_of_element ch hnch t ht hk
        obtain ⟨a1, a2⟩ := tag_in_element ch _ _ hch e he t hte
        rw [hXch t ht hk, c3 _ (Nat.le_trans (hwf e he).1 a1) (Nat.lt_trans a2 (hwf e he).2), Bool.false_or]
      simp [prunePart, hpd, spliceParts, splicePart, hpu, flattenPart, hXst.trans c1, hXen.trans c2, ihc]
    · -- removed whole: every token of the element is covered
      simp only [prunePart, hpd, if_true, spliceParts, flattenParts, List.filter_nil]
      refine (List.filter_eq_nil_iff.mpr fun t ht => ?_).symm
      obtain ⟨m1, m2, m3⟩ := hmem t ht
      simp only [Bool.and_eq_true, Bool.not_eq_eq_eq_not, Bool.not_true, not_and, Bool.not_eq_false]
      intro hk
      rw [hX t ht (by simpa [isTagTok] using hk), extentsOfPart, if_pos hc, extentOf_default b el st en hu hlt,
        inAny_append, (inAny_iff _ _).mpr ⟨_, List.mem_singleton_self _, hst ▸ m1, hen3 ▸ Nat.lt_of_lt_of_le m2 m3⟩,
        Bool.true_or]
    · simp only [hc, Bool.false_eq_true, if_false, inAny_nil, Bool.false_or] at hXst hXen hXch
      simp [prunePart, hpd, spliceParts, splicePart, hpu, flattenParts, flattenPart, hXst, hXen, htst, hten, ih hXch]
  · intros; rfl
  · intro p ps ihp ihps lo hi hs hl hn hr hX
    obtain ⟨mid, hs1, hs2, hm⟩ := BSpan_parts_cons p ps lo hi b.length hs hl
    -- the extents of a part do not reach the tokens of the others
    have hw1 := extents_within_u cfg b [p] lo mid (by simpa [flattenParts] using hs1) hm
    have hw2 := extents_within_u cfg b ps mid hi hs2 hl
    simp only [extentsOfParts, List.append_nil] at hw1
    have e1 := ihp lo mid hs1 hm hn.1 hr.1 (fun t ht hk => by
      have := BSpan_mem _ lo mid hs1 t ht
      rw [hX t (List.mem_append_left _ ht) hk, extentsOfParts, inAny_append,
        inAny_false_of_within hw2 (Or.inl (Nat.lt_of_lt_of_le this.2.1 this.2.2)), Bool.or_false])
    have e2 := ihps mid hi hs2 hl hn.2 hr.2 (fun t ht hk => by
      rw [hX t (List.mem_append_right _ ht) hk, extentsOfParts, inAny_append,
        inAny_false_of_within hw1 (Or.inr (BSpan_mem _ mid hi hs2 t ht).1), Bool.false_or])
    simp only [pruneParts, spliceParts_append, flattenParts_append, List.filter_append, flattenParts, e1, e2]

/-- the tags that the ready extents do not cover are the tags of the pruned and unwrapped forest -/
theorem kept_tags (cfg : Cfg) (b : Bytes) (X : List Rng) : ∀ (parts : List Part) (lo hi : Nat),
    BSpan (flattenParts parts) lo hi → hi ≤ b.length → NoStray parts → ReadyShape cfg b parts →
    (∀ t ∈ flattenParts parts, t.kind = .element → inAny X t.bstart = inAny (extentsOfParts cfg b parts) t.bstart) →
    (flattenParts (spliceParts (isUnwrapReady cfg) (pruneParts (isDefaultReady cfg) parts))).filter isTagTok =
      (flattenParts parts).filter (fun t => isTagTok t && !inAny X t.bstart) := (kept_tags_both cfg b X).2

theorem keptPart_tags (cfg : Cfg) (b : Bytes) (X : List Rng) : ∀ (p : Part) (lo hi : Nat),
    BSpan (flattenPart p) lo hi → hi ≤ b.length → NoStrayP p → ReadyShapeP cfg b p →
    (∀ t ∈ flattenPart p, t.kind = .element → inAny X t.bstart = inAny (extentsOfPart cfg b p) t.bstart) →
    (flattenParts (spliceParts (isUnwrapReady cfg) (prunePart (isDefaultReady cfg) p))).filter isTagTok =
      (flattenPart p).filter (fun t => isTagTok t && !inAny X t.bstart) := (kept_tags_both cfg b X).1

end Chiritori
