import Chiritori.Lemmas.ScanTextbook
/-
  Well-delimited pieces in the narrow sense of `Piece.ok`: text free of the first character of the start delimiter,
  tag bodies free of the first character of the end delimiter.  On them the automaton emits exactly the normal form
  `tnorm` (`srun_pieces`), and the merge pass has nothing to merge (`sMerge_id`).
-/
namespace Chiritori
open Spec

theorem srun_text (d0 : Char) (dr de : List Char) (outs : SOut) (pend cs : List Char) (h : ∀ c ∈ cs, c ≠ d0) :
    srun (d0 :: dr) de ⟨outs, .text, pend⟩ cs = ⟨outs, .text, pend ++ cs⟩ := by
  induction cs generalizing pend with
  | nil => rw [List.append_nil]; rfl
  | cons c cs ih =>
    rw [srun_cons, sStep_of_none (getState_text_of_text de (checkDelimiterStart_of_ne (h c List.mem_cons_self) dr)),
      ih _ (fun x hx => h x (List.mem_cons_of_mem _ hx)), List.append_assoc]
    rfl

theorem sStep_dend_nil (ds de : List Char) (outs : SOut) (tag : List Char) (c : Char) (ht : tag ≠ []) :
    sStep ds de ⟨outs, .dend [], tag⟩ c = ⟨outs ++ [(.element, tag)], checkDelimiterStart c ds, [c]⟩ := by
  rw [sStep_of_some (getState_dend_nil c ds de), if_pos ht]

/-- the automaton between pieces is in one of two situations -/
inductive MSt where
  | T (pend : List Char)      -- text state, `pend` collected
  | G (tag : List Char)       -- a complete tag is pending

def MSt.repr : MSt → TState × List Char
  | .T pend => (.text, pend)
  | .G tag => (.dend [], tag)

def mfinish (t : List Char) (outs : SOut) : MSt → SOut
  | .T pend => if pend ++ t ≠ [] then outs ++ [(.text, pend ++ t)] else outs
  | .G tag => outs ++ [(.element, tag)] ++ (if t ≠ [] then [(TKind.text, t)] else [])

/-- what is still to come out, given the situation and the pieces ahead -/
def F (ds de t : List Char) : MSt → List Piece → SOut
  | .T acc, ps => tnorm ds de t ps acc
  | .G tag, ps => (TKind.element, tag) :: tnorm ds de t ps []

theorem mfinish_eq (ds de t : List Char) (outs : SOut) (m : MSt) : mfinish t outs m = outs ++ F ds de t m [] := by
  cases m with
  | T acc => by_cases h : acc ++ t = [] <;> simp [mfinish, F, tnorm, h]
  | G tag => by_cases h : t = [] <;> simp [mfinish, F, tnorm, h]

def MSt.good : MSt → Prop
  | .T _ => True
  | .G tag => tag ≠ []

theorem srun_tag_of_step (d0 : Char) (dr : List Char) (e0 : Char) (er : List Char) (b0 : Char) (rest : List Char)
    (s : SSt) (o1 : SOut) (hstep : sStep (d0 :: dr) (e0 :: er) s d0 = ⟨o1, .dstart dr, [d0]⟩)
    (hr : ∀ c ∈ rest, c ≠ e0) :
    srun (d0 :: dr) (e0 :: er) s (Piece.render (d0 :: dr) (e0 :: er) (.tag b0 rest))
      = ⟨o1, .dend [], (d0 :: dr) ++ b0 :: (rest ++ e0 :: er)⟩ := by
  show srun _ _ s (d0 :: (dr ++ b0 :: (rest ++ e0 :: er))) = _
  rw [srun_cons, hstep, srun_tag _ dr e0 er o1 [d0] b0 rest (quietE_free e0 er rest hr)]
  rfl

/-- one piece takes the automaton from one of the two situations to one of them; what has come out and what is
    still to come stay the same together -/
theorem srun_piece (d0 : Char) (dr : List Char) (e0 : Char) (er : List Char) (p : Piece) (hp : p.ok d0 e0) (m : MSt)
    (outs : SOut) (hg : m.good) :
    ∃ m1 outs1, srun (d0 :: dr) (e0 :: er) ⟨outs, m.repr.1, m.repr.2⟩ (p.render (d0 :: dr) (e0 :: er))
        = ⟨outs1, m1.repr.1, m1.repr.2⟩ ∧ m1.good ∧
      ∀ t ps, outs1 ++ F (d0 :: dr) (e0 :: er) t m1 ps = outs ++ F (d0 :: dr) (e0 :: er) t m (p :: ps) := by
  cases m with
  | T acc =>
    cases p with
    | text s => exact ⟨.T (acc ++ s), outs, srun_text d0 dr _ outs acc s hp, trivial, fun _ _ => rfl⟩
    | tag b0 rest =>
      refine ⟨.G _, _, srun_tag_of_step d0 dr e0 er b0 rest ⟨outs, .text, acc⟩ _
        (sStep_of_some (getState_text_of_dstart _ (checkDelimiterStart_self d0 dr))) hp, List.cons_ne_nil _ _, fun t ps => ?_⟩
      by_cases ha : acc = [] <;> simp [F, tnorm, ha]
  | G tag =>
    have htag : tag ≠ [] := hg
    cases p with
    | text s =>
      cases s with
      | nil => exact ⟨.G tag, outs, rfl, hg, fun _ _ => rfl⟩
      | cons c cs =>
        refine ⟨.T (c :: cs), outs ++ [(.element, tag)], ?_, trivial, fun t ps => by simp [F, tnorm]⟩
        show srun _ _ ⟨outs, .dend [], tag⟩ (c :: cs) = _
        rw [srun_cons, sStep_dend_nil _ _ _ _ _ htag, checkDelimiterStart_of_ne (hp c List.mem_cons_self) dr,
          srun_text d0 dr _ _ [c] cs (fun x hx => hp x (List.mem_cons_of_mem _ hx))]
        rfl
    | tag b0 rest =>
      exact ⟨.G _, _, srun_tag_of_step d0 dr e0 er b0 rest ⟨outs, .dend [], tag⟩ (outs ++ [(.element, tag)])
        (by rw [sStep_dend_nil _ _ _ _ _ htag, checkDelimiterStart_self]) hp, List.cons_ne_nil _ _,
        fun t ps => by simp [F, tnorm]⟩

theorem srun_pieces_out (d0 : Char) (dr : List Char) (e0 : Char) (er : List Char) (ps : List Piece) :
    ∀ (m : MSt) (outs : SOut), m.good → (∀ p ∈ ps, p.ok d0 e0) →
    ∃ m' outs', srun (d0 :: dr) (e0 :: er) ⟨outs, m.repr.1, m.repr.2⟩ (renderAll (d0 :: dr) (e0 :: er) ps)
        = ⟨outs', m'.repr.1, m'.repr.2⟩ ∧ m'.good ∧
      (∀ t, mfinish t outs' m' = outs ++ F (d0 :: dr) (e0 :: er) t m ps) := by
  induction ps with
  | nil =>
    intro m outs hg _
    exact ⟨m, outs, rfl, hg, fun t => mfinish_eq _ _ t outs m⟩
  | cons p ps ih =>
    intro m outs hg hok
    obtain ⟨m1, outs1, h1, g1, f1⟩ := srun_piece d0 dr e0 er p (hok p List.mem_cons_self) m outs hg
    obtain ⟨m', outs', h2, g2, f2⟩ := ih m1 outs1 g1 fun q hq => hok q (List.mem_cons_of_mem _ hq)
    exact ⟨m', outs', by rw [renderAll, srun_append, h1, h2], g2, fun t => by rw [f2 t, f1 t ps]⟩

theorem srun_pieces (d0 : Char) (dr : List Char) (e0 : Char) (er : List Char) (ps : List Piece) :
    ∀ (m : MSt) (outs : SOut), m.good → (∀ p ∈ ps, p.ok d0 e0) →
    ∃ m' outs', srun (d0 :: dr) (e0 :: er) ⟨outs, m.repr.1, m.repr.2⟩ (renderAll (d0 :: dr) (e0 :: er) ps)
        = ⟨outs', m'.repr.1, m'.repr.2⟩ ∧ m'.good ∧
      (∀ t, mfinish t outs' m' = outs ++ F (d0 :: dr) (e0 :: er) t m ps) ∧
      (m' = .T [] → m = .T [] ∧ renderAll (d0 :: dr) (e0 :: er) ps = []) := by
  intro m outs hg hok
  obtain ⟨m', outs', h1, h2, h3⟩ := srun_pieces_out d0 dr e0 er ps m outs hg hok
  refine ⟨m', outs', h1, h2, h3, ?_⟩
  rintro rfl
  -- nothing is pending, so nothing has been read
  by_cases hr : renderAll (d0 :: dr) (e0 :: er) ps = []
  · rw [hr] at h1
    cases m with
    | T acc => cases h1; exact ⟨rfl, hr⟩
    | G tag => cases h1
  · exact absurd (congrArg SSt.pend h1) (srun_pend_ne _ _ _ _ hr)

def NoAdjS : SOut → Prop
  | a :: b :: rest => ¬ (a.1 = .text ∧ b.1 = .text) ∧ NoAdjS (b :: rest)
  | _ => True

theorem NoAdjS_mid : ∀ (pre : SOut) (a b : TKind × List Char) (l : SOut),
    NoAdjS (pre ++ a :: b :: l) → ¬ (a.1 = .text ∧ b.1 = .text)
  | [], _, _, _, h => h.1
  | [_], _, _, _, h => h.2.1
  | _ :: q :: pre, a, b, l, h => NoAdjS_mid (q :: pre) a b l h.2

theorem sMerge_id (l : SOut) (h : NoAdjS l) : ∀ (acc : SOut), NoAdjS (acc ++ l) → l.foldl sMergeStep acc = acc ++ l := by
  induction l with
  | nil => intro acc _; simp
  | cons x xs ih =>
    intro acc hacc
    have hstep : sMergeStep acc x = acc ++ [x] := by
      unfold sMergeStep
      cases hl : acc.getLast? with
      | none => rfl
      | some last =>
        obtain ⟨ini, rfl⟩ := List.getLast?_eq_some_iff.mp hl
        rw [List.append_assoc] at hacc
        exact if_neg (NoAdjS_mid ini last x xs hacc)
    have hxs : NoAdjS xs := by
      cases xs with
      | nil => trivial
      | cons y ys => exact h.2
    rw [List.foldl_cons, hstep, ih hxs (acc ++ [x]) (by rwa [List.append_assoc]), List.append_assoc]
    rfl

end Chiritori
