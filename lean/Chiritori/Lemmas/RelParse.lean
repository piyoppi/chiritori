import Chiritori.Lemmas.PiecesOut
import Chiritori.Lemmas.Simulate
import Chiritori.Lemmas.Induction
/-
  Parsing up to whitespace: two token streams with the same tags, whose texts between the tags have the same
  non-whitespace characters, parse to forests that are indistinguishable by "remove the elements selected by `P`,
  then read the non-whitespace text" - for every `P` (`parse_rel`).  The relation on forests is stated through
  exactly that observation (`RelParts`), which makes it a congruence for every move of the stack machine
  (`RelParts.congr`); the run of the machine on the two streams is that of Lemmas/Simulate.lean.
-/
namespace Chiritori
open Spec

def nwflat (parts : List Part) : List Char := nwC (flat (flattenParts parts))

theorem pruneParts_append (P : Element → Bool) : ∀ (a b : List Part),
    pruneParts P (a ++ b) = pruneParts P a ++ pruneParts P b
  | [], b => by simp [pruneParts]
  | x :: xs, b => by simp [pruneParts, pruneParts_append P xs b, List.append_assoc]

theorem nwflat_append (a b : List Part) : nwflat (a ++ b) = nwflat a ++ nwflat b := by
  simp [nwflat, flattenParts_append, nwC_append]

def RelParts (a b : List Part) : Prop := ∀ P : Element → Bool, nwflat (pruneParts P a) = nwflat (pruneParts P b)

theorem RelParts.refl (a : List Part) : RelParts a a := fun _ => rfl

theorem RelParts.append {a b c d : List Part} (h1 : RelParts a b) (h2 : RelParts c d) : RelParts (a ++ c) (b ++ d) := by
  intro P
  rw [pruneParts_append, pruneParts_append, nwflat_append, nwflat_append, h1 P, h2 P]

theorem pruneParts_texts (P : Element → Bool) : ∀ (B : List Token), pruneParts P (B.map Part.text) = B.map Part.text
  | [] => rfl
  | t :: B => by simp [pruneParts, prunePart, pruneParts_texts P B]

theorem flattenParts_texts : ∀ (B : List Token), flattenParts (B.map Part.text) = B
  | [] => rfl
  | t :: B => by simp [flattenParts, flattenPart, flattenParts_texts B]

theorem RelParts.texts (B B' : List Token) (h : nwC (flat B) = nwC (flat B')) :
    RelParts (B.map Part.text) (B'.map Part.text) := by
  intro P
  simp only [pruneParts_texts, nwflat, flattenParts_texts, h]

theorem flat_one (t : Token) : flat [t] = t.value := by simp [flat]

theorem RelParts.text (t u : Token) (h : t.value = u.value) : RelParts [.text t] [.text u] := by
  have := RelParts.texts [t] [u] (by rw [flat_one, flat_one, h])
  simpa using this

theorem flat_elem (st en : Token) (X : List Token) : flat (st :: X ++ [en]) = st.value ++ flat X ++ en.value := by
  simp [flat]

theorem RelParts.elem (el : Element) (st st' en en' : Token) (ch ch' : List Part) (h1 : st.value = st'.value)
    (h2 : en.value = en'.value) (h3 : RelParts ch ch') : RelParts [.element el st en ch] [.element el st' en' ch'] := by
  intro P
  simp only [pruneParts, prunePart, List.append_nil]
  split
  · rfl
  · have := h3 P
    simp only [nwflat] at this
    simp only [nwflat, flattenParts, flattenPart, List.append_nil]
    rw [flat_elem, flat_elem]
    simp only [nwC_append, h1, h2, this]

def SameTok (t u : Token) : Prop := t.kind = u.kind ∧ t.value = u.value

theorem RelParts.congr : Congr SameTok Eq RelParts :=
  ⟨RelParts.refl [], RelParts.append, fun h => RelParts.text _ _ h.2,
    fun he h1 h2 h3 => he ▸ RelParts.elem _ _ _ _ _ _ _ h1.2 h2.2 h3⟩

theorem spelling_same (ds de : List Char) : Spelling ds de ds de SameTok Eq :=
  ⟨fun t u h => Both.of_eq (by simp only [elparse, h.1, h.2]), fun _ _ h => by rw [h], fun _ _ _ _ hf he => by rw [hf, he]⟩

theorem appendTo_nil (S : List Frame) (r : List Part) : appendTo S r [] = (S, r) := by
  cases S <;> simp [appendTo]

theorem appendTo_appendTo (S : List Frame) (r a b : List Part) :
    appendTo (appendTo S r a).1 (appendTo S r a).2 b = appendTo S r (a ++ b) := by
  cases S <;> simp [appendTo, List.append_assoc]

theorem runM_texts (ds de : List Char) : ∀ (B : List Token) (S : List Frame) (r : List Part),
    (∀ t ∈ B, t.kind = .text) → runM ds de (S, r) B = appendTo S r (B.map Part.text)
  | [], S, r, _ => by simp [runM, appendTo_nil]
  | t :: B, S, r, h => by
    have ht : elparse ds de t = none := by simp [elparse, h t (by simp)]
    have : runM ds de (S, r) (t :: B) = runM ds de (stackStep ds de (S, r) t) B := by simp [runM]
    rw [this, stackStep_text ds de S r t ht]
    have ih := runM_texts ds de B (appendTo S r [.text t]).1 (appendTo S r [.text t]).2 (fun u hu => h u (by simp [hu]))
    rw [show ((appendTo S r [.text t]).1, (appendTo S r [.text t]).2) = appendTo S r [.text t] from rfl] at ih
    rw [ih, appendTo_appendTo]
    rfl

inductive TokRel : List Token → List Token → Prop
  | nil : TokRel [] []
  | tag (t u : Token) (a b : List Token) : t.kind = u.kind → t.value = u.value → TokRel a b → TokRel (t :: a) (u :: b)
  | txt (b1 b2 a b : List Token) : (∀ t ∈ b1, t.kind = .text) → (∀ t ∈ b2, t.kind = .text) →
      nwC (flat b1) = nwC (flat b2) → TokRel a b → TokRel (b1 ++ a) (b2 ++ b)

theorem runM_rel (ds de : List Char) (T1 T2 : List Token) (h : TokRel T1 T2) :
    ∀ (st st' : List Frame × List Part), StateRel SameTok Eq RelParts st st' →
      StateRel SameTok Eq RelParts (runM ds de st T1) (runM ds de st' T2) := by
  induction h with
  | nil => intro st st' hst; exact hst
  | tag t u a b hk hv _ ih =>
    intro st st' hst
    exact ih _ _ (stackStep_sim (spelling_same ds de) RelParts.congr hst ⟨hk, hv⟩)
  | txt b1 b2 a b h1 h2 hn _ ih =>
    intro st st' hst
    obtain ⟨S, r⟩ := st
    obtain ⟨S', r'⟩ := st'
    rw [runM_append, runM_append, runM_texts ds de b1 S r h1, runM_texts ds de b2 S' r' h2]
    exact ih _ _ (appendTo_sim RelParts.congr hst.1 hst.2 (RelParts.texts b1 b2 hn))

theorem parse_rel (ds de : List Char) (T1 T2 : List Token) (h : TokRel T1 T2) :
    RelParts (parse ds de T1) (parse ds de T2) := by
  rw [parse_eq_finish, parse_eq_finish]
  exact finish_sim RelParts.congr (runM_rel ds de T1 T2 h _ _ ⟨.nil, RelParts.refl _⟩)

theorem prune_prune (P1 P2 : Element → Bool) (hP : ∀ e, P1 e = true → P2 e = true) : ∀ (a : List Part),
    pruneParts P2 (pruneParts P1 a) = pruneParts P2 a := by
  intro a
  induction a using parts_induction with
  | nil => rfl
  | text t rest ih => simp only [pruneParts, prunePart, List.singleton_append, ih]
  | element el st en ch rest ihc ih =>
    simp only [pruneParts, prunePart]
    by_cases h1 : P1 el = true
    · simp only [h1, hP el h1, if_true, List.nil_append, ih]
    · simp only [h1, Bool.false_eq_true, if_false, List.singleton_append, pruneParts, prunePart, ihc, ih]

theorem prunePart_prune (P1 P2 : Element → Bool) (hP : ∀ e, P1 e = true → P2 e = true) : ∀ (p : Part),
    pruneParts P2 (prunePart P1 p) = prunePart P2 p := by
  intro p
  have := prune_prune P1 P2 hP [p]
  simpa only [pruneParts, List.append_nil] using this

theorem optText_tokens (T : List Token) (acc : List Char)
    (h : T.map (fun t => (t.kind, t.value)) = if acc ≠ [] then [(TKind.text, acc)] else []) :
    (∀ t ∈ T, t.kind = .text) ∧ flat T = acc := by
  split at h
  · obtain ⟨x, rfl, hx⟩ := List.map_eq_singleton_iff.mp h
    injection hx with hk hv
    exact ⟨by simpa using hk, by rw [flat_one]; exact hv⟩
  · rename_i hacc
    rw [List.map_eq_nil_iff] at h
    subst h
    exact ⟨by simp, (Decidable.not_not.mp hacc).symm⟩

theorem tnorm_tag_inv (ds de : List Char) (b0 : Char) (rest : List Char) (ps : List Piece) (acc : List Char)
    (T : List Token) (h : T.map (fun t => (t.kind, t.value)) = tnorm ds de [] (.tag b0 rest :: ps) acc) :
    ∃ T1 u T3, T = T1 ++ u :: T3 ∧
      T1.map (fun t => (t.kind, t.value)) = (if acc ≠ [] then [(TKind.text, acc)] else []) ∧
      u.kind = .element ∧ u.value = ds ++ (b0 :: (rest ++ de)) ∧
      T3.map (fun t => (t.kind, t.value)) = tnorm ds de [] ps [] := by
  simp only [tnorm] at h
  obtain ⟨T12, T3, rfl, h12, h3⟩ := List.map_eq_append_iff.mp h
  obtain ⟨T1, T2, rfl, h1, h2⟩ := List.map_eq_append_iff.mp h12
  obtain ⟨u, rfl, hu⟩ := List.map_eq_singleton_iff.mp h2
  injection hu with hk hv
  exact ⟨T1, u, T3, by simp, h1, hk, hv, h3⟩

theorem tokRel_of_pRel (ds de : List Char) : ∀ (ps : List Piece) (L : List Token) (acc : List Char) (B T : List Token),
    PRel ds de ps L → (∀ t ∈ B, t.kind = .text) → nwC (flat B) = nwC acc →
    T.map (fun t => (t.kind, t.value)) = tnorm ds de [] ps acc → TokRel T (B ++ L) := by
  intro ps
  induction ps with
  | nil =>
    intro L acc B T h hB hn hT
    cases L with
    | cons _ _ => exact h.elim
    | nil =>
      simp only [tnorm, List.append_nil] at hT
      obtain ⟨hk, hf⟩ := optText_tokens T acc hT
      have := TokRel.txt T B [] [] hk hB (by rw [hf, hn]) TokRel.nil
      simpa using this
  | cons p ps ih =>
    intro L acc B T h hB hn hT
    cases L with
    | nil => cases p <;> exact h.elim
    | cons t L =>
      cases p with
      | text v =>
        obtain ⟨hk, hnv, hrest⟩ := h
        simp only [tnorm] at hT
        have := ih L (acc ++ v) (B ++ [t]) T hrest
          (by intro u hu; rcases List.mem_append.mp hu with hu | hu
              · exact hB u hu
              · simp only [List.mem_singleton] at hu; subst hu; exact hk)
          (by rw [flat_append, nwC_append, nwC_append, hn, hnv, flat_one]) hT
        simpa using this
      | tag b0 rest =>
        obtain ⟨hk, hv, hrest⟩ := h
        obtain ⟨T1, u, T3, rfl, hT1, uk, uv, hT3⟩ := tnorm_tag_inv ds de b0 rest ps acc T hT
        obtain ⟨h1k, h1f⟩ := optText_tokens T1 acc hT1
        have ih3 := ih L [] [] T3 hrest (by simp) rfl hT3
        exact TokRel.txt T1 B _ _ h1k hB (by rw [h1f, hn])
          (TokRel.tag u t T3 L (by rw [uk, hk]) (by rw [uv, hv]) (by simpa using ih3))

end Chiritori
