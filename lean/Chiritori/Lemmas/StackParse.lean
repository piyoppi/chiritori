import Chiritori.Lemmas.Parser
/-
  The recursive descent of parser.rs computes what the left-to-right stack machine computes.
-/
namespace Chiritori
open Spec

def frameNames (s : List Frame) : List (List Char) := s.map (·.el.name)

/-- a tag that closes one of the open names -/
def closerCond (el : Element) (names : List (List Char)) : Prop :=
  el.name.head? = some '/' ∧ names.any (· == trimSlashes el.name) = true

instance (el : Element) (names : List (List Char)) : Decidable (closerCond el names) := by
  unfold closerCond; exact inferInstance

def closerName : Option (Token × Element) → List Char
  | some (_, el) => trimSlashes el.name
  | none => []

def runM (ds de : List Char) (st : List Frame × List Part) (toks : List Token) : List Frame × List Part :=
  toks.foldl (stackStep ds de) st

theorem runM_cons (ds de : List Char) (st : List Frame × List Part) (t : Token) (ts : List Token) :
    runM ds de st (t :: ts) = runM ds de (stackStep ds de st t) ts := rfl

theorem runM_append (ds de : List Char) (st : List Frame × List Part) (a b : List Token) :
    runM ds de st (a ++ b) = runM ds de (runM ds de st a) b := by
  simp [runM, List.foldl_append]

theorem frameNames_appendTo (s : List Frame) (root ps : List Part) :
    frameNames (appendTo s root ps).1 = frameNames s := by
  cases s <;> rfl

theorem finishStack_appendTo (s : List Frame) (root ps h : List Part) :
    finishStack (appendTo s root ps).1 h (appendTo s root ps).2 = finishStack s (ps ++ h) root := by
  cases s <;> simp [appendTo, finishStack]

theorem closeFrame_appendTo (name : List Char) (c : Token) (s : List Frame) (root ps h : List Part) :
    closeFrame name c (appendTo s root ps).1 (appendTo s root ps).2 h = closeFrame name c s root (ps ++ h) := by
  cases s <;> simp [appendTo, closeFrame]

theorem any_frameNames (S : List Frame) (x : List Char) :
    S.any (fun f => f.el.name == x) = (frameNames S).any (· == x) := by
  simp [frameNames, List.any_map, Function.comp_def]

theorem stackStep_text (ds de : List Char) (S : List Frame) (r : List Part) (t : Token) (h : elparse ds de t = none) :
    stackStep ds de (S, r) t = appendTo S r [.text t] := by
  simp [stackStep, h]

theorem stackStep_open (ds de : List Char) (S : List Frame) (r : List Part) (t : Token) (el : Element)
    (h : elparse ds de t = some el) (hc : ¬ closerCond el (frameNames S)) :
    stackStep ds de (S, r) t = (⟨t, el, []⟩ :: S, r) := by
  simp only [stackStep, h]
  exact if_neg fun hh => hc ⟨hh.1, by rw [← any_frameNames]; exact hh.2⟩

theorem closeFrame_cons_eq (name : List Char) (c : Token) (f : Frame) (fs : List Frame) (root h : List Part)
    (hf : f.el.name = name) :
    closeFrame name c (f :: fs) root h = some (appendTo fs root [.element f.el f.tok c (f.parts ++ h)]) := by
  rw [closeFrame, if_pos hf]

theorem closeFrame_cons_ne (name : List Char) (c : Token) (f : Frame) (fs : List Frame) (root h : List Part)
    (hf : f.el.name ≠ name) :
    closeFrame name c (f :: fs) root h = closeFrame name c fs root (.text f.tok :: (f.parts ++ h)) := by
  rw [closeFrame, if_neg hf]

theorem closeFrame_isSome (name : List Char) (c : Token) (s : List Frame) (root h : List Part)
    (hany : s.any (fun f => f.el.name == name) = true) : ∃ r, closeFrame name c s root h = some r := by
  induction s generalizing h with
  | nil => simp at hany
  | cons f fs ih =>
    by_cases hf : f.el.name = name
    · exact ⟨_, closeFrame_cons_eq name c f fs root h hf⟩
    · rw [closeFrame_cons_ne name c f fs root h hf]
      rw [List.any_cons, Bool.or_eq_true, beq_iff_eq] at hany
      exact ih _ (hany.resolve_left hf)

theorem stackStep_close (ds de : List Char) (S : List Frame) (r : List Part) (t : Token) (el : Element)
    (h : elparse ds de t = some el) (hc : closerCond el (frameNames S)) :
    ∃ st', closeFrame (trimSlashes el.name) t S r [] = some st' ∧ stackStep ds de (S, r) t = st' := by
  have hany : S.any (fun f => f.el.name == trimSlashes el.name) = true := by rw [any_frameNames]; exact hc.2
  obtain ⟨st', hst⟩ := closeFrame_isSome (trimSlashes el.name) t S r [] hany
  exact ⟨st', hst, by simp [stackStep, h, hc.1, hany, hst]⟩

theorem stackStep_open_of_parents (ds de : List Char) (s : List Frame) (root : List Part) (t : Token) (el : Element)
    (parents : List (List Char)) (hn : frameNames s = parents.reverse) (h : elparse ds de t = some el)
    (hc : ¬ closerCond el parents) :
    stackStep ds de (s, root) t = (⟨t, el, []⟩ :: s, root) ∧
    frameNames (⟨t, el, []⟩ :: s) = (parents ++ [el.name]).reverse := by
  refine ⟨stackStep_open ds de s root t el h fun hh => hc ⟨hh.1, ?_⟩, by rw [List.reverse_append, ← hn]; rfl⟩
  rw [← List.any_reverse, ← hn]
  exact hh.2

/-- `r`, what the descent made of `toks`, against the machine started in `(s, root)`: if the descent stopped at a closer,
    the machine is about to close the same frame over the same hoisted parts and both go on with the same rest; if it ran
    to the end, unwinding the machine's stack gives its parts -/
def Simulates (ds de : List Char) (toks : List Token) (r : TreeResult) (s : List Frame) (root : List Part) : Prop :=
  (r.closer = none →
    finishStack (runM ds de (s, root) toks).1 [] (runM ds de (s, root) toks).2 = finishStack s r.parts root) ∧
  ∀ tc elc, r.closer = some (tc, elc) →
    ∃ st', closeFrame (trimSlashes elc.name) tc s root r.parts = some st' ∧
      runM ds de (s, root) toks = runM ds de st' r.rest

theorem Simulates.appendTo {ds de : List Char} {toks toks' : List Token} {r : TreeResult} {s : List Frame}
    {root : List Part} (ps : List Part)
    (hr : Simulates ds de toks r (appendTo s root ps).1 (appendTo s root ps).2)
    (hrun : runM ds de (s, root) toks' = runM ds de (Spec.appendTo s root ps) toks) :
    Simulates ds de toks' ⟨ps ++ r.parts, r.rest, r.closer⟩ s root := by
  obtain ⟨hN, hC⟩ := hr
  rw [finishStack_appendTo] at hN
  simp only [closeFrame_appendTo] at hC
  unfold Simulates
  rw [hrun]
  exact ⟨hN, hC⟩

theorem tree_simulates (ds de : List Char) (fuel : Nat) (toks : List Token) (parents : List (List Char))
    (hf : toks.length < fuel) (s : List Frame) (root : List Part) (hn : frameNames s = parents.reverse) :
    Simulates ds de toks (tree ds de fuel toks parents) s root := by
  fun_induction tree ds de fuel toks parents generalizing s root with
  | case1 => omega
  | case2 => exact ⟨fun _ => rfl, nofun⟩
  | case3 fuel t rest parents hel r ih =>
    exact (ih (Nat.lt_of_succ_lt_succ hf) _ _ ((frameNames_appendTo s root _).trans hn)).appendTo [.text t]
      (by rw [runM_cons, stackStep_text ds de s root t hel])
  | case4 fuel t rest parents el hel hcl =>
    refine ⟨nofun, ?_⟩
    rintro _ _ ⟨⟩
    obtain ⟨st', h1, h2⟩ := stackStep_close ds de s root t el hel
      ⟨hcl.1, by rw [hn, List.any_reverse]; exact hcl.2⟩
    exact ⟨st', h1, by rw [runM_cons, h2]⟩
  | case5 fuel t rest parents el hel hcl inner et eel hc hname r ihi ihr =>
    have hf := Nat.lt_of_succ_lt_succ hf
    obtain ⟨hstep, hn'⟩ := stackStep_open_of_parents ds de s root t el parents hn hel hcl
    obtain ⟨st', hcf, hrun⟩ := (ihi hf _ root hn').2 et eel hc
    -- the frame of `t` is the one `et` closes
    rw [closeFrame_cons_eq _ _ _ _ _ _ hname, Option.some.injEq] at hcf
    subst hcf
    exact (ihr (Nat.lt_of_le_of_lt (tree_ok ds de fuel rest _ hf).rest_le hf) _ _
      ((frameNames_appendTo s root _).trans hn)).appendTo [.element el t et inner.parts] (by rw [runM_cons, hstep]; exact hrun)
  | case6 fuel t rest parents el hel hcl inner et eel hc hname ihi =>
    obtain ⟨hstep, hn'⟩ := stackStep_open_of_parents ds de s root t el parents hn hel hcl
    obtain ⟨st', hcf, hrun⟩ := (ihi (Nat.lt_of_succ_lt_succ hf) _ root hn').2 et eel hc
    -- the frame of `t` is not: it is demoted
    rw [closeFrame_cons_ne _ _ _ _ _ _ hname] at hcf
    refine ⟨nofun, ?_⟩
    rintro _ _ ⟨⟩
    exact ⟨st', hcf, by rw [runM_cons, hstep, hrun]⟩
  | case7 fuel t rest parents el hel hcl inner hc r ihi ihr =>
    have hf := Nat.lt_of_succ_lt_succ hf
    obtain ⟨hstep, hn'⟩ := stackStep_open_of_parents ds de s root t el parents hn hel hcl
    have hN := (ihi hf _ root hn').1 hc
    -- the inner level ran to the end of the input: the continuation has nothing to add
    have hr : r = ⟨[], [], none⟩ := by
      show tree ds de fuel inner.rest parents = _
      rw [(tree_ok ds de fuel rest (parents ++ [el.name]) hf).rest_nil hc, tree_nil]
    unfold Simulates
    rw [hr, runM_cons, hstep]
    exact ⟨fun _ => by rw [hN, List.append_nil]; rfl, nofun⟩

theorem parse_eq_stackParse (ds de : List Char) (toks : List Token) : parse ds de toks = stackParse ds de toks := by
  obtain ⟨hN, hC⟩ := tree_simulates ds de (toks.length + 1) toks [] (by omega) [] [] rfl
  cases hc : (tree ds de (toks.length + 1) toks []).closer with
  | none => simpa [parse, stackParse, runM, finishStack] using (hN hc).symm
  | some c => obtain ⟨_, h, _⟩ := hC c.1 c.2 hc; simp [closeFrame] at h

theorem parse_eq_finish (ds de : List Char) (T : List Token) :
    parse ds de T = finishStack (runM ds de ([], []) T).1 [] (runM ds de ([], []) T).2 := by
  rw [parse_eq_stackParse]
  rfl

end Chiritori
