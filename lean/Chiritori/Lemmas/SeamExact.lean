import Chiritori.Lemmas.Finders
import Chiritori.Model.Formatter
/-
  The four seam formatters and `format_block`: what each returns in terms of the bytes around the seam, and all of
  them in closed form at a block-style seam - position `pos` holds the line break that ends a line consisting of blanks
  only (`[ls, pos)`, possibly empty), and the line break in front of that line is not byte 0.
-/
namespace Chiritori

theorem formatBlock_cons (b : Bytes) (pos : Nat) (f : Bytes → Nat → R Rng') (fs : List (Bytes → Nat → R Rng'))
    (acc : Rng') :
    formatBlock b pos (f :: fs) acc =
      (f b pos).bind fun r => formatBlock b pos fs (min r.1 acc.1, max r.2 acc.2) := by
  rw [formatBlock]
  rcases f b pos with _ | ⟨s, e⟩ <;> rfl

theorem formatBlock_nil (b : Bytes) (pos : Nat) (acc : Rng') : formatBlock b pos [] acc = .ok acc := rfl

theorem formatBlock_seam_ok (b : Bytes) (pos : Nat) (r : Rng') :
    formatBlock b pos seamFormatters (pos, pos) = .ok r ↔
      ∃ r1 r2 r3 r4, fmtIndent b pos = .ok r1 ∧ fmtEmpty b pos = .ok r2 ∧ fmtPrev b pos = .ok r3 ∧
        fmtNext b pos = .ok r4 ∧
        r = (min r4.1 (min r3.1 (min r2.1 (min r1.1 pos))), max r4.2 (max r3.2 (max r2.2 (max r1.2 pos)))) := by
  simp only [seamFormatters, formatBlock_cons, formatBlock_nil, bind_eq_ok_iff, Except.ok.injEq, exists_and_left,
    @eq_comm _ _ r]

theorem indentScan_eq (rev : Bytes) (c : Nat) : indentScan rev c = (scanNL true rev).map (c - ·) := by
  induction rev generalizing c with
  | nil => rfl
  | cons x rest ih =>
    have e : (scanNL true rest).map (c - 1 - ·) = ((scanNL true rest).map (· + 1)).map (c - ·) := by
      rw [Option.map_map]; congr 1; funext k
      show c - 1 - k = c - (k + 1)
      rw [Nat.sub_sub, Nat.add_comm]
    cases x with
    | cont => simp only [indentScan, scanNL, lbCheck, ih, e]
    | lead d =>
      simp only [indentScan, scanNL, lbCheck, ih, e]
      by_cases h1 : d = ' ' ∨ d = '\t'
      · simp only [h1, if_true]
      · by_cases h2 : d = '\n' <;> simp [h1, h2]

theorem indentScan_rev_take (b : Bytes) (pos s : Nat) (hle : pos ≤ b.length) :
    indentScan (b.take pos).reverse pos = some s ↔
      0 < s ∧ s ≤ pos ∧ b[s - 1]? = some NL ∧ ∀ i, s ≤ i → i < pos → ∃ x, b[i]? = some x ∧ isSkipByte x := by
  rw [indentScan_eq, Option.map_eq_some_iff]
  constructor
  · rintro ⟨k, h, rfl⟩
    have hk : k < pos := by have := (scanNL_lt _ _ _ h).1; simp at this; omega
    obtain ⟨hnl, hall⟩ := (scanNL_rev_take true b pos (pos - k - 1) k hle (by omega)).mp h
    exact ⟨by omega, by omega, hnl, fun i h1 h2 => (hall i (by omega) h2).2 rfl⟩
  · rintro ⟨h0, hs, hnl, hall⟩
    exact ⟨pos - s, (scanNL_rev_take true b pos (s - 1) _ hle (by omega)).mpr
      ⟨hnl, fun i h1 h2 => skip_passes true (hall i (by omega) h2)⟩, by omega⟩

theorem fmtIndent_eq (b : Bytes) (pos : Nat) :
    fmtIndent b pos =
      .ok (if b[pos]? = some NL then ((indentScan (b.take pos).reverse pos).getD pos, pos) else (pos, pos)) := by
  unfold fmtIndent
  by_cases hnl : b[pos]? = some NL
  · have hlt : pos < b.length := lt_of_getElem?_some _ _ _ hnl
    rw [if_neg (by simp [isBoundary_of_lead b pos _ hnl, (byteIs_iff b pos _).mpr hnl]; exact hlt), if_pos hnl]
    cases indentScan (b.take pos).reverse pos <;> rfl
  · rw [if_neg hnl, if_pos]
    by_cases hby : byteIs b pos '\n' = true
    · exact absurd ((byteIs_iff b pos _).mp hby) hnl
    · simp [hby]

theorem fmtIndent_inv {b : Bytes} {pos : Nat} {r : Rng'} (h : fmtIndent b pos = .ok r) :
    r.2 = pos ∧ r.1 ≤ pos ∧ (r.1 = pos ∨ (0 < r.1 ∧ b[r.1 - 1]? = some NL ∧
      ∀ i, r.1 ≤ i → i < pos → ∃ x, b[i]? = some x ∧ isSkipByte x)) := by
  rw [fmtIndent_eq, Except.ok.injEq] at h
  subst h
  by_cases hnl : b[pos]? = some NL
  · rw [if_pos hnl]
    cases hs : indentScan (b.take pos).reverse pos with
    | none => exact ⟨rfl, Nat.le_refl _, Or.inl rfl⟩
    | some s =>
      obtain ⟨h0, hle, hbefore, hrun⟩ :=
        (indentScan_rev_take b pos s (Nat.le_of_lt (lt_of_getElem?_some _ _ _ hnl))).mp hs
      exact ⟨rfl, hle, Or.inr ⟨h0, hbefore, hrun⟩⟩
  · rw [if_neg hnl]
    exact ⟨rfl, Nat.le_refl _, Or.inl rfl⟩

theorem fmtIndent_intro (b : Bytes) (pos ls : Nat) (hnl : b[pos]? = some NL) (h0 : 0 < ls) (hle : ls ≤ pos)
    (hrun : ∀ i, ls ≤ i → i < pos → ∃ x, b[i]? = some x ∧ isSkipByte x) (hbefore : b[ls - 1]? = some NL) :
    fmtIndent b pos = .ok (ls, pos) := by
  rw [fmtIndent_eq, if_pos hnl,
    (indentScan_rev_take b pos ls (Nat.le_of_lt (lt_of_getElem?_some _ _ _ hnl))).mpr ⟨h0, hle, hbefore, hrun⟩]
  rfl

theorem fmtEmpty_inv {b : Bytes} {pos : Nat} {r : Rng'} (h : fmtEmpty b pos = .ok r) :
    isBoundary b pos = true ∧ r.1 = pos ∧ pos ≤ r.2 ∧ (r.2 = pos ∨ (r.2 = pos + 1 ∧ b[pos]? = some NL)) := by
  unfold fmtEmpty at h
  cases hb : isBoundary b pos with
  | false => rw [hb] at h; cases h
  | true =>
    refine ⟨rfl, ?_⟩
    cases hnl : byteIs b pos '\n' with
    | false => rw [hb, hnl] at h; cases h; exact ⟨rfl, Nat.le_refl _, Or.inl rfl⟩
    | true =>
      rw [hb, hnl] at h
      simp only [Bool.not_true, Bool.false_eq_true, if_false] at h
      split at h <;> cases h
      · exact ⟨rfl, Nat.le_succ _, Or.inr ⟨rfl, (byteIs_iff _ _ _).mp hnl⟩⟩
      · exact ⟨rfl, Nat.le_refl _, Or.inl rfl⟩

/-- `PrevLineBreakRemover` takes the blank line in front of the seam's line: from behind the line break before it, over
    its own line break at `p1` and the blanks of the seam's line -/
theorem fmtPrev_inv {b : Bytes} {pos : Nat} {r : Rng'} (h : fmtPrev b pos = .ok r) :
    r.2 = pos ∧ r.1 ≤ pos ∧ (r.1 = pos ∨ ∃ p1, 0 < r.1 ∧ r.1 ≤ p1 ∧ p1 < pos ∧ b[r.1 - 1]? = some NL ∧ b[p1]? = some NL ∧
      (∀ i, r.1 ≤ i → i < p1 → ∃ x, b[i]? = some x ∧ isSkipByte x) ∧
      (∀ i, p1 < i → i < pos → ∃ x, b[i]? = some x ∧ isSkipByte x)) := by
  unfold fmtPrev at h
  cases hp1 : findPrevLB b pos true with
  | none => rw [hp1] at h; cases h; exact ⟨rfl, Nat.le_refl _, Or.inl rfl⟩
  | some p1 =>
    rw [hp1, Option.bind_some] at h
    cases hp2 : findPrevLB b p1 true with
    | none => rw [hp2] at h; cases h; exact ⟨rfl, Nat.le_refl _, Or.inl rfl⟩
    | some lb =>
      rw [hp2] at h; cases h
      obtain ⟨_, a2, _, a4, _, a6⟩ := findPrevLB_some _ _ _ _ hp1
      obtain ⟨_, c2, _, c4, _, c6⟩ := findPrevLB_some _ _ _ _ hp2
      exact ⟨rfl, Nat.le_of_lt (Nat.lt_of_le_of_lt c2 a2),
        Or.inr ⟨p1, Nat.succ_pos _, c2, a2, c4, a4, fun i h1 h2 => c6 rfl i h1 h2, a6 rfl⟩⟩

/-- `NextLineBreakRemover` takes the blank line behind the seam's line: the rest of the seam's line with its line break
    at `p1`, and the blanks up to the next line break -/
theorem fmtNext_inv {b : Bytes} {pos : Nat} {r : Rng'} (h : fmtNext b pos = .ok r) :
    r.1 = pos ∧ pos ≤ r.2 ∧ (r.2 = pos ∨ ∃ p1, pos ≤ p1 ∧ p1 < r.2 ∧ b[p1]? = some NL ∧ b[r.2]? = some NL ∧
      (∀ i, pos ≤ i → i < p1 → ∃ x, b[i]? = some x ∧ isSkipByte x) ∧
      (∀ i, p1 < i → i < r.2 → ∃ x, b[i]? = some x ∧ isSkipByte x)) := by
  unfold fmtNext at h
  cases hp1 : findNextLB b pos true with
  | none => rw [hp1] at h; cases h; exact ⟨rfl, Nat.le_refl _, Or.inl rfl⟩
  | some p1 =>
    rw [hp1, Option.bind_some] at h
    cases hp2 : findNextLB b (p1 + 1) true with
    | none => rw [hp2] at h; cases h; exact ⟨rfl, Nat.le_refl _, Or.inl rfl⟩
    | some lb =>
      rw [hp2] at h; cases h
      obtain ⟨_, a2, _, a4, _, a6⟩ := findNextLB_some _ _ _ _ hp1
      obtain ⟨_, c2, _, c4, _, c6⟩ := findNextLB_some _ _ _ _ hp2
      exact ⟨rfl, Nat.le_trans a2 (Nat.le_of_lt c2), Or.inr ⟨p1, a2, c2, a4, c4, a6 rfl, fun i h1 h2 => c6 rfl i h1 h2⟩⟩

/-- `IndentRemover` and `PrevLineBreakRemover` alone decide where the hull of the four ranges starts, `EmptyLineRemover`
    and `NextLineBreakRemover` where it ends: the other two do not reach over `pos` on that side -/
theorem seamHull_ok {b : Bytes} {pos : Nat} {r : Rng'} :
    formatBlock b pos seamFormatters (pos, pos) = .ok r ↔
      ∃ r1 r2 r3 r4, fmtIndent b pos = .ok r1 ∧ fmtEmpty b pos = .ok r2 ∧ fmtPrev b pos = .ok r3 ∧
        fmtNext b pos = .ok r4 ∧ r = (min r3.1 r1.1, max r4.2 r2.2) := by
  rw [formatBlock_seam_ok]
  refine exists_congr fun r1 => exists_congr fun r2 => exists_congr fun r3 => exists_congr fun r4 =>
    and_congr_right fun h1 => and_congr_right fun h2 => and_congr_right fun h3 => and_congr_right fun h4 => ?_
  obtain ⟨e1, l1, _⟩ := fmtIndent_inv h1
  obtain ⟨_, s2, l2, _⟩ := fmtEmpty_inv h2
  obtain ⟨e3, l3, _⟩ := fmtPrev_inv h3
  obtain ⟨s4, l4, _⟩ := fmtNext_inv h4
  rw [s4, s2, e1, e3, Nat.min_eq_left l1, Nat.min_eq_right l1, Nat.min_eq_right (Nat.le_trans (Nat.min_le_left _ _) l3),
    Nat.max_self, Nat.max_eq_left l2, Nat.max_eq_right l2]

/-- the residual line of a block-style removal: blanks `[ls, pos)`, the line break at `pos`, a line break before `ls` -/
structure BlockSeam (b : Bytes) (ls pos : Nat) : Prop where
  -- the backward finder never looks at byte 0, so the line break at `ls - 1` must stand at an index ≥ 1
  two : 2 ≤ ls
  le : ls ≤ pos
  nl : b[pos]? = some (.lead '\n')
  ind : ∀ i, ls ≤ i → i < pos → ∃ x, b[i]? = some x ∧ isSkipByte x
  before : b[ls - 1]? = some (.lead '\n')

namespace BlockSeam
variable {b : Bytes} {ls pos : Nat}

theorem lt_len (h : BlockSeam b ls pos) : pos < b.length := lt_of_getElem?_some _ _ _ h.nl

theorem boundary (h : BlockSeam b ls pos) : isBoundary b pos = true := isBoundary_of_lead b pos _ h.nl

theorem byteIs_nl (h : BlockSeam b ls pos) : byteIs b pos '\n' = true := (byteIs_iff b pos _).mpr h.nl

theorem next_self (h : BlockSeam b ls pos) : findNextLB b pos true = some pos :=
  findNextLB_intro b pos pos true (by have := h.two; have := h.le; omega) (Nat.le_refl _)
    (fun i h1 h2 => by omega) h.nl

theorem prev_line (h : BlockSeam b ls pos) : findPrevLB b pos true = some (ls - 1) :=
  findPrevLB_intro b pos (ls - 1) true (by have := h.two; omega) (by have := h.two; have := h.le; omega)
    (by have := h.lt_len; omega) (fun i h1 h2 => h.ind i (by omega) h2) h.before

theorem indent (h : BlockSeam b ls pos) : fmtIndent b pos = .ok (ls, pos) :=
  fmtIndent_intro b pos ls h.nl (by have := h.two; omega) h.le h.ind h.before

theorem empty (h : BlockSeam b ls pos) :
    fmtEmpty b pos = .ok (if (findNextLB b (pos + 1) true).isNone ∧ (findPrevLB b (ls - 1) true).isNone
      then (pos, pos + 1) else (pos, pos)) := by
  unfold fmtEmpty
  simp only [h.boundary, h.byteIs_nl, Bool.not_true, Bool.false_eq_true, ite_false, h.next_self, h.prev_line,
    Option.bind_some]
  split <;> rfl

theorem prev (h : BlockSeam b ls pos) :
    fmtPrev b pos = .ok (match findPrevLB b (ls - 1) true with | some lb => (lb + 1, pos) | none => (pos, pos)) := by
  unfold fmtPrev
  simp only [h.prev_line, Option.bind_some]
  cases findPrevLB b (ls - 1) true <;> rfl

theorem next (h : BlockSeam b ls pos) :
    fmtNext b pos = .ok (match findNextLB b (pos + 1) true with | some lb => (pos, lb) | none => (pos, pos)) := by
  unfold fmtNext
  simp only [h.next_self, Option.bind_some]
  cases findNextLB b (pos + 1) true <;> rfl

/-- the hull of the four formatters in terms of the two look-arounds -/
theorem hull (h : BlockSeam b ls pos) :
    formatBlock b pos seamFormatters (pos, pos) = .ok
      (match findPrevLB b (ls - 1) true with | some lb => lb + 1 | none => ls,
       match findNextLB b (pos + 1) true with
       | some e => max e pos
       | none => match findPrevLB b (ls - 1) true with | some _ => pos | none => pos + 1) := by
  refine seamHull_ok.mpr ⟨_, _, _, _, h.indent, h.empty, h.prev, h.next, ?_⟩
  cases hp : findPrevLB b (ls - 1) true with
  | none =>
    cases findNextLB b (pos + 1) true with
    | none => simp only [Option.isNone_none, and_self, if_true, Nat.min_eq_right h.le, Nat.max_eq_right (Nat.le_succ pos)]
    | some e => simp only [Option.isNone_some, Bool.false_eq_true, false_and, if_false, Nat.min_eq_right h.le]
  | some lb =>
    have hlb : lb + 1 ≤ ls := by have := (findPrevLB_some _ _ _ _ hp).2.1; omega
    cases findNextLB b (pos + 1) true with
    | none => simp only [Option.isNone_some, Bool.false_eq_true, and_false, if_false, Nat.min_eq_left hlb, Nat.max_self]
    | some e => simp only [Option.isNone_some, Bool.false_eq_true, false_and, if_false, Nat.min_eq_left hlb]

end BlockSeam

end Chiritori
