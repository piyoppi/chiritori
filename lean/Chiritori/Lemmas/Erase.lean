import Chiritori.Lemmas.RustLines
/-
  Colour codes are invisible to the rendering of a list item: a text with colour codes inserted (`Er y x`: `y` is
  `x` with colour codes in some places) goes through line splitting, numbering, tab expansion and joining to a
  text that is again the plain result with colour codes inserted, and stripping ANSI sequences from it gives the
  plain text (`strip_er`).  One exception: `str::lines` strips a carriage return only when it stands directly in
  front of the line break, and a colour code between the two hides it (defect D17); with no colour code directly
  behind a carriage return (`NoCrEsc`), splitting into lines still commutes with inserting colour codes
  (`er_rustLines_cr`).
-/
namespace Chiritori

def IsCol (k : List Char) : Prop := k = colGreen ∨ k = colRed ∨ k = colYellow ∨ k = colReset

inductive Er : List Char → List Char → Prop
  | nil : Er [] []
  | keep (c : Char) {y x : List Char} : Er y x → Er (c :: y) (c :: x)
  | skip (k : List Char) {y x : List Char} : IsCol k → Er y x → Er (k ++ y) x

theorem Er.refl : ∀ (x : List Char), Er x x
  | [] => .nil
  | c :: cs => .keep c (Er.refl cs)

theorem Er.append {a a' b b' : List Char} (h1 : Er a a') (h2 : Er b b') : Er (a ++ b) (a' ++ b') := by
  induction h1 with
  | nil => simpa using h2
  | keep c _ ih => exact .keep c ih
  | skip k hk _ ih => rw [List.append_assoc]; exact .skip k hk ih

theorem Er.col (k : List Char) (hk : IsCol k) : Er k [] := by
  have := Er.skip k hk Er.nil
  simpa using this

def IsColOpt (k : List Char) : Prop := IsCol k ∨ k = []

theorem Er.colOpt (k : List Char) (hk : IsColOpt k) : Er k [] := by
  rcases hk with hk | rfl
  · exact Er.col k hk
  · exact .nil

theorem isCol_lit {k : List Char} (hk : IsCol k) :
    k = ['\x1b', '[', '3', '2', 'm'] ∨ k = ['\x1b', '[', '3', '1', 'm'] ∨ k = ['\x1b', '[', '3', '3', 'm'] ∨
      k = ['\x1b', '[', '0', 'm'] := by
  unfold IsCol colGreen colRed colYellow colReset at hk
  rw [String.toList_ofList, String.toList_ofList, String.toList_ofList, String.toList_ofList] at hk
  exact hk

theorem col_head (k : List Char) (hk : IsCol k) : ∃ d, k = ['\x1b', '[', '3', d, 'm'] ∨ k = ['\x1b', '[', '0', 'm'] := by
  rcases isCol_lit hk with h | h | h | h
  · exact ⟨'2', .inl h⟩
  · exact ⟨'1', .inl h⟩
  · exact ⟨'3', .inl h⟩
  · exact ⟨'0', .inr h⟩

theorem col_shape {k : List Char} (hk : IsCol k) :
    ∃ p, (∀ c ∈ p, c.isDigit = true) ∧ k = '\x1b' :: '[' :: (p ++ ['m']) := by
  rcases isCol_lit hk with rfl | rfl | rfl | rfl
  · exact ⟨['3', '2'], by decide, rfl⟩
  · exact ⟨['3', '1'], by decide, rfl⟩
  · exact ⟨['3', '3'], by decide, rfl⟩
  · exact ⟨['0'], by decide, rfl⟩

theorem col_chars (k : List Char) (hk : IsCol k) : ∀ c ∈ k, c ≠ '\n' ∧ c ≠ '\t' ∧ c ≠ '\r' := by
  obtain ⟨p, hp, rfl⟩ := col_shape hk
  intro c hc
  simp only [List.mem_cons, List.mem_append, List.not_mem_nil, or_false] at hc
  rcases hc with rfl | rfl | hc | rfl
  · decide
  · decide
  · have := hp c hc
    refine ⟨?_, ?_, ?_⟩ <;> (rintro rfl; exact absurd this (by decide))
  · decide

theorem er_mem {y x : List Char} (h : Er y x) : ∀ c ∈ y, c ∈ x ∨ (c ≠ '\n' ∧ c ≠ '\t' ∧ c ≠ '\r') := by
  induction h with
  | nil => simp
  | keep d _ ih =>
    intro c hc
    rcases List.mem_cons.mp hc with rfl | hc
    · exact Or.inl (by simp)
    · rcases ih c hc with h | h
      · exact Or.inl (List.mem_cons_of_mem _ h)
      · exact Or.inr h
  | skip k hk _ ih =>
    intro c hc
    rcases List.mem_append.mp hc with hc | hc
    · exact Or.inr (col_chars k hk c hc)
    · exact ih c hc

theorem replaceTabs_append : ∀ (a b : List Char), replaceTabs (a ++ b) = replaceTabs a ++ replaceTabs b
  | [], b => rfl
  | c :: cs, b => by
    simp only [List.cons_append, replaceTabs]
    split <;> simp [replaceTabs_append cs b]

theorem replaceTabs_notab : ∀ (k : List Char), (∀ c ∈ k, c ≠ '\t') → replaceTabs k = k
  | [], _ => rfl
  | c :: cs, h => by
    simp only [replaceTabs]
    rw [if_neg (h c (by simp)), replaceTabs_notab cs (fun d hd => h d (by simp [hd]))]

theorem er_replaceTabs {y x : List Char} (h : Er y x) : Er (replaceTabs y) (replaceTabs x) := by
  induction h with
  | nil => exact .nil
  | keep c _ ih =>
    simp only [replaceTabs]
    split
    · exact (Er.refl _).append ih
    · exact .keep c ih
  | skip k hk _ ih =>
    rw [replaceTabs_append, replaceTabs_notab k (fun c hc => (col_chars k hk c hc).2.1)]
    exact .skip k hk ih

def ErL : List (List Char) → List (List Char) → Prop
  | [], [] => True
  | a :: as, b :: bs => Er a b ∧ ErL as bs
  | _, _ => False

theorem linesT_skip : ∀ (k y cur : List Char), (∀ c ∈ k, c ≠ '\n') → linesT (k ++ y) cur = linesT y (cur ++ k)
  | [], y, cur, _ => by simp
  | c :: cs, y, cur, h => by
    simp only [List.cons_append, linesT]
    rw [if_neg (h c (by simp)), linesT_skip cs y _ (fun d hd => h d (by simp [hd]))]
    simp

theorem er_linesT {y x : List Char} (h : Er y x) : ∀ (cur cur' : List Char), Er cur cur' →
    ErL (linesT y cur) (linesT x cur') := by
  induction h with
  | nil => intro cur cur' hc; exact ⟨hc, trivial⟩
  | keep c _ ih =>
    intro cur cur' hc
    simp only [linesT]
    split
    · exact ⟨hc, ih [] [] .nil⟩
    · exact ih _ _ (hc.append (Er.refl [c]))
  | skip k hk _ ih =>
    intro cur cur' hc
    rw [linesT_skip k _ cur (fun c hc => (col_chars k hk c hc).1)]
    apply ih
    have := hc.append (Er.col k hk)
    simpa using this

theorem er_zipLines : ∀ (nums : List Nat) (ls ls' : List (List Char)), ErL ls ls' →
    Er (zipLines nums ls) (zipLines nums ls')
  | [], _, _, _ => by simp only [zipLines]; exact .nil
  | _ :: is, [], [], _ => by simp only [zipLines]; exact er_zipLines is [] [] trivial
  | _ :: _, [], _ :: _, h => h.elim
  | _ :: _, _ :: _, [], h => h.elim
  | i :: is, l :: ls, l' :: ls', h => by
    simp only [zipLines]
    exact (((Er.refl _).append h.1).append (Er.refl _)).append (er_zipLines is ls ls' h.2)

theorem er_joinWith (sep : List Char) : ∀ (A B : List (List Char)), ErL A B → Er (joinWith sep A) (joinWith sep B)
  | [], [], _ => .nil
  | [], _ :: _, h => h.elim
  | _ :: _, [], h => h.elim
  | [a], [b], h => by simp only [joinWith]; exact h.1
  | [_], _ :: _ :: _, h => h.2.elim
  | _ :: _ :: _, [_], h => h.2.elim
  | a :: a2 :: as, b :: b2 :: bs, h => by
    simp only [joinWith]
    exact (h.1.append (Er.refl sep)).append (er_joinWith sep (a2 :: as) (b2 :: bs) h.2)

theorem erL_map (f g : List Char → List Char) (hfg : ∀ l, Er (f l) (g l)) : ∀ (L : List (List Char)),
    ErL (L.map f) (L.map g)
  | [] => trivial
  | l :: ls => ⟨hfg l, erL_map f g hfg ls⟩

def NoCrEsc : List Char → Prop
  | [] => True
  | [_] => True
  | a :: b :: rest => ¬(a = '\r' ∧ b = '\x1b') ∧ NoCrEsc (b :: rest)

theorem NoCrEsc_tail (a : Char) (l : List Char) (h : NoCrEsc (a :: l)) : NoCrEsc l := by
  cases l with
  | nil => trivial
  | cons b rest => exact h.2

theorem NoCrEsc_of_noEsc : ∀ (l : List Char), (∀ c ∈ l, c ≠ '\x1b') → NoCrEsc l
  | [], _ => trivial
  | [_], _ => trivial
  | a :: b :: rest, h =>
    ⟨fun hh => h b (by simp) hh.2, NoCrEsc_of_noEsc (b :: rest) (fun c hc => h c (by simp [hc]))⟩

theorem NoCrEsc_of_noCr : ∀ (l : List Char), (∀ c ∈ l, c ≠ '\r') → NoCrEsc l
  | [], _ => trivial
  | [_], _ => trivial
  | a :: b :: rest, h =>
    ⟨fun hh => h a (by simp) hh.1, NoCrEsc_of_noCr (b :: rest) (fun c hc => h c (by simp [hc]))⟩

theorem NoCrEsc_append : ∀ (a b : List Char), NoCrEsc a → NoCrEsc b →
    (a.getLast? = some '\r' → b.head? ≠ some '\x1b') → NoCrEsc (a ++ b)
  | [], b, _, hb, _ => by simpa using hb
  | [_], [], _, _, _ => trivial
  | [x], y :: ys, _, hb, hj => by
    refine ⟨?_, hb⟩
    rintro ⟨rfl, rfl⟩
    exact hj (by simp) (by simp)
  | x :: y :: rest, b, ha, hb, hj => by
    refine ⟨ha.1, ?_⟩
    have := NoCrEsc_append (y :: rest) b ha.2 hb (by
      intro h; apply hj
      rw [List.getLast?_cons_cons]; exact h)
    simpa using this

theorem NoCrEsc_left : ∀ (a b : List Char), NoCrEsc (a ++ b) → NoCrEsc a
  | [], _, _ => trivial
  | [_], _, _ => trivial
  | _ :: y :: rest, b, h => ⟨h.1, NoCrEsc_left (y :: rest) b h.2⟩

theorem NoCrEsc_right : ∀ (a b : List Char), NoCrEsc (a ++ b) → NoCrEsc b
  | [], _, h => by simpa using h
  | x :: rest, b, h => NoCrEsc_right rest b (NoCrEsc_tail x _ h)

theorem er_nil_ends {y : List Char} (h : Er y []) : y = [] ∨ (y.head? = some '\x1b' ∧ y.getLast? = some 'm') := by
  generalize hx : ([] : List Char) = x at h
  induction h with
  | nil => exact Or.inl rfl
  | keep c _ _ => cases hx
  | skip k hk _ ih =>
    obtain ⟨p, _, rfl⟩ := col_shape hk
    cases hx
    refine Or.inr ⟨rfl, ?_⟩
    rcases ih rfl with rfl | ⟨_, hl⟩
    · rw [List.append_nil]
      exact List.getLast?_concat (l := '\x1b' :: '[' :: p)
    · rw [List.getLast?_append, hl]; rfl

theorem er_snoc {y x : List Char} (h : Er y x) : ∀ x0 c, x = x0 ++ [c] →
    ∃ y0 t, y = y0 ++ c :: t ∧ Er y0 x0 ∧ Er t [] := by
  induction h with
  | nil => intro x0 c hx; simp at hx
  | keep d hyx ih =>
    intro x0 c hx
    cases x0 with
    | nil =>
      obtain ⟨rfl, rfl⟩ := List.cons.inj hx
      exact ⟨[], _, rfl, .nil, hyx⟩
    | cons e x0' =>
      obtain ⟨rfl, rfl⟩ := List.cons.inj hx
      obtain ⟨y0, t, rfl, h0, ht⟩ := ih x0' c rfl
      exact ⟨d :: y0, t, rfl, .keep d h0, ht⟩
  | skip k hk _ ih =>
    intro x0 c hx
    obtain ⟨y0, t, rfl, h0, ht⟩ := ih x0 c hx
    exact ⟨k ++ y0, t, by simp, .skip k hk h0, ht⟩

theorem er_snoc_cr {y x : List Char} (h : Er y x) (x0 : List Char) (hx : x = x0 ++ ['\r']) (hn : NoCrEsc y) :
    ∃ y0, y = y0 ++ ['\r'] ∧ Er y0 x0 := by
  obtain ⟨y0, t, rfl, h0, ht⟩ := er_snoc h x0 '\r' hx
  rcases er_nil_ends ht with rfl | ⟨hh, _⟩
  · exact ⟨y0, rfl, h0⟩
  · obtain ⟨rest, rfl⟩ := List.head?_eq_some_iff.mp hh
    exact absurd ⟨rfl, rfl⟩ (NoCrEsc_right y0 _ hn).1

/-- colour codes end with `m`: a coloured text that ends with another character ends with the last character of the
    plain text -/
theorem er_last {y x : List Char} (h : Er y x) (c : Char) (hc : c ≠ 'm') (hy : y.getLast? = some c) :
    x.getLast? = some c := by
  rcases List.eq_nil_or_concat x with rfl | ⟨x0, d, hx⟩
  · rcases er_nil_ends h with rfl | ⟨_, hl⟩
    · cases hy
    · exact absurd (Option.some.inj (hy.symm.trans hl)) hc
  · rw [List.concat_eq_append] at hx
    obtain ⟨y0, t, rfl, _, ht⟩ := er_snoc h x0 d hx
    rw [hx, List.getLast?_concat]
    rcases er_nil_ends ht with rfl | ⟨_, hl⟩
    · rwa [List.getLast?_concat] at hy
    · rw [List.getLast?_append, List.getLast?_cons, hl] at hy
      exact absurd (Option.some.inj hy).symm hc

theorem linesT_noCrEsc : ∀ (y cur : List Char), NoCrEsc (cur ++ y) → ∀ l ∈ linesT y cur, NoCrEsc l
  | [], cur, h, l, hl => by
    simp only [linesT, List.mem_singleton] at hl
    subst hl; simpa using h
  | c :: cs, cur, h, l, hl => by
    simp only [linesT] at hl
    split at hl
    · rcases List.mem_cons.mp hl with rfl | hl
      · exact NoCrEsc_left _ _ h
      · exact linesT_noCrEsc cs [] (by
          have := NoCrEsc_right (cur ++ [c]) cs (by simpa using h)
          simpa using this) l hl
    · exact linesT_noCrEsc cs (cur ++ [c]) (by simpa using h) l hl

theorem er_stripCR {a b : List Char} (h : Er a b) (hn : NoCrEsc a) : Er (stripCR a) (stripCR b) := by
  by_cases hb : b.getLast? = some '\r'
  · obtain ⟨b0, rfl⟩ := List.getLast?_eq_some_iff.mp hb
    obtain ⟨a0, rfl, h0⟩ := er_snoc_cr h b0 rfl hn
    rw [stripCR_snoc_cr, stripCR_snoc_cr]
    exact h0
  · have ha : a.getLast? ≠ some '\r' := fun ha => hb (er_last h '\r' (by decide) ha)
    rw [stripCR_of_ne ha, stripCR_of_ne hb]
    exact h

theorem erL_stripCR : ∀ (A B : List (List Char)), ErL A B → (∀ a ∈ A, NoCrEsc a) →
    ErL (A.map stripCR) (B.map stripCR)
  | [], [], _, _ => trivial
  | [], _ :: _, h, _ => h.elim
  | _ :: _, [], h, _ => h.elim
  | a :: as, b :: bs, h, hn =>
    ⟨er_stripCR h.1 (hn a (by simp)), erL_stripCR as bs h.2 (fun x hx => hn x (by simp [hx]))⟩

/-- splitting into lines commutes with inserting colour codes, carriage returns included, as long as no colour
    code stands directly behind a carriage return -/
theorem er_rustLines_cr {y x : List Char} (h : Er y x) (hn : NoCrEsc y) :
    ErL (rustLines (y ++ ['\n'])) (rustLines (x ++ ['\n'])) := by
  unfold rustLines
  rw [rustLines_terminated_cr, rustLines_terminated_cr]
  exact erL_stripCR _ _ (er_linesT h [] [] .nil) (linesT_noCrEsc y [] (by simpa using hn))

inductive StripSt where
  | normal
  | esc
  | params (buf : List Char)

def isParamChar (c : Char) : Bool := c.isDigit || c == ';'

/-- remove every match of `\x1b\[[0-9;]*m`, left to right -/
def strip : StripSt → List Char → List Char
  | .normal, [] => []
  | .normal, c :: cs => if c = '\x1b' then strip .esc cs else c :: strip .normal cs
  | .esc, [] => ['\x1b']
  | .esc, c :: cs =>
    if c = '[' then strip (.params []) cs
    else if c = '\x1b' then '\x1b' :: strip .esc cs
    else '\x1b' :: c :: strip .normal cs
  | .params buf, [] => '\x1b' :: '[' :: buf
  | .params buf, c :: cs =>
    if c = 'm' then strip .normal cs
    else if isParamChar c then strip (.params (buf ++ [c])) cs
    else if c = '\x1b' then ('\x1b' :: '[' :: buf) ++ strip .esc cs
    else ('\x1b' :: '[' :: buf) ++ c :: strip .normal cs

def stripAnsi (s : List Char) : List Char := strip .normal s

theorem strip_params (rest : List Char) : ∀ (p buf : List Char), (∀ c ∈ p, c.isDigit = true) →
    strip (.params buf) (p ++ 'm' :: rest) = strip .normal rest
  | [], _, _ => by simp [strip]
  | c :: p, buf, h => by
    have hc := h c (by simp)
    have hm : c ≠ 'm' := by rintro rfl; exact absurd hc (by decide)
    simp only [List.cons_append, strip, if_neg hm, isParamChar, hc, Bool.true_or, if_true]
    exact strip_params rest p _ fun d hd => h d (by simp [hd])

theorem strip_col (k : List Char) (hk : IsCol k) (rest : List Char) : strip .normal (k ++ rest) = strip .normal rest := by
  obtain ⟨p, hp, rfl⟩ := col_shape hk
  simpa [strip] using strip_params rest p [] hp

/-- stripping a text with colour codes inserted gives the text back, if the text itself has no escape character -/
theorem strip_er {y x : List Char} (h : Er y x) (hx : ∀ c ∈ x, c ≠ '\x1b') : stripAnsi y = x := by
  unfold stripAnsi
  induction h with
  | nil => rfl
  | keep c _ ih =>
    simp only [strip]
    rw [if_neg (hx c (by simp)), ih (fun d hd => hx d (by simp [hd]))]
  | skip k hk _ ih =>
    rw [strip_col k hk, ih hx]

end Chiritori
