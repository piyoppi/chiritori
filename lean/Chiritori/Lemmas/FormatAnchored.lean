import Chiritori.Lemmas.MergeSorted
import Chiritori.Lemmas.CoresKept
/-
  Which bytes `format` deletes, in terms of the ranges its loop collects (`format_deleted`), and where those lie: a seam
  range is a run of whitespace around its seam; a block range lies in the blanks at the beginning of a line that starts,
  behind a line break, strictly between the two seams of a pair.  So every deleted byte lies in a run of whitespace that
  touches a seam or such a line start (`format_anchored`).
-/
namespace Chiritori.Props.C12
open Chiritori

/-- `r` is one of the ranges the block indent remover computes for a pair of seams of `pos` -/
def BlockRangeOf (K : Bytes) (all ps : List (Nat × Option Nat)) (r : Rng') : Prop :=
  ∃ p ∈ ps, ∃ j q x, p.2 = some j ∧ all[j]? = some (q, x) ∧ p.1 < q ∧ r ∈ fmtBlockIndent K p.1 q

theorem formatCollect_blocks (b : Bytes) (all : List (Nat × Option Nat)) : ∀ (ps : List (Nat × Option Nat))
    (rs bs : List Rng'), formatCollect b all ps = .ok (rs, bs) → ∀ r, r ∈ bs ↔ BlockRangeOf b all ps r
    := by
  intro ps rs bs h r
  obtain ⟨_, _, rfl⟩ := formatCollect_eq b all ps rs bs h
  simp only [List.mem_flatMap, mem_blocksAt, BlockRangeOf]

end Chiritori.Props.C12

namespace Chiritori
open Spec

/-- where the block ranges of the collection loop come from: an entry whose pair entry lies further right -/
theorem blocks_origin (b : Bytes) (all : List (Nat × Option Nat)) : ∀ (ps : List (Nat × Option Nat))
    (rs bs : List Rng'), formatCollect b all ps = .ok (rs, bs) →
    ∀ x ∈ bs, ∃ p ∈ ps, ∃ j q, p.2 = some j ∧ all[j]? = some q ∧ p.1 < q.1 ∧ x ∈ fmtBlockIndent b p.1 q.1 := by
  intro ps rs bs h x hx
  obtain ⟨p, hp, j, q, y, h1, h2, h3, h4⟩ := (Props.C12.formatCollect_blocks b all ps rs bs h x).mp hx
  exact ⟨p, hp, j, (q, y), h1, h2, h3, h4⟩

end Chiritori

namespace Chiritori.Props.C14
open Chiritori Chiritori.Spec

/-- every range of the collection loop with the position it is anchored at -/
theorem ranges_local (s : List Char) (all ps : List (Nat × Option Nat)) (rs bs : List (Nat × Nat))
    (h : formatCollect (bytesOf s) all ps = .ok (rs, bs)) :
    (∀ r ∈ rs, ∃ p ∈ ps, GoodRange s p.1 r) ∧
    (∀ r ∈ bs, ∃ p ∈ ps, ∃ q, r ∈ fmtBlockIndent (bytesOf s) p.1 q) := by
  refine ⟨fun r hr => ?_, fun r hr => ?_⟩
  · obtain ⟨hhull, rfl, _⟩ := formatCollect_eq _ _ _ _ _ h
    obtain ⟨p, hp, rfl⟩ := List.mem_map.mp hr
    exact ⟨p, hp, (formatBlock_good s _ _ (hhull p hp)).2⟩
  · obtain ⟨p, hp, _, q, _, _, _, hx⟩ := blocks_origin _ all ps rs bs h r hr
    exact ⟨p, hp, q.1, hx⟩

theorem mergeOverlappedGo_subset (xs : List Rng') : ∀ (cur : Rng') (i : Nat),
    inAny (mergeOverlappedGo cur xs) i = true → inAny (cur :: xs) i = true := by
  induction xs with
  | nil => intro cur i h; exact h
  | cons x xs ih =>
    intro cur i h
    simp only [mergeOverlappedGo] at h
    split at h
    · -- `cur` and `x` overlap: their hull holds nothing but what one of them holds
      rename_i hov
      have := ih _ i h
      simp only [inAny_cons, Rng.contains, Bool.or_eq_true, Bool.and_eq_true, decide_eq_true_eq] at this ⊢
      rcases this with ⟨h1, h2⟩ | h3
      · by_cases hc : i < cur.2
        · exact Or.inl ⟨h1, hc⟩
        · exact Or.inr (Or.inl ⟨by omega, by omega⟩)
      · exact Or.inr (Or.inr h3)
    · rw [inAny_cons, Bool.or_eq_true] at h ⊢
      exact h.imp_right (ih x i)

theorem merged_subset (l : List Rng') (i : Nat) (h : inAny (mergeOverlapped l) i = true) : inAny l i = true := by
  cases l with
  | nil => exact h
  | cons r rs => exact mergeOverlappedGo_subset rs r i h

end Chiritori.Props.C14

namespace Chiritori.Props.C13
open Chiritori Chiritori.Spec

/-- The set `format` deletes: the points of the seam ranges and of the block ranges its loop collects - all of them when
    the seam ranges are sorted by start (`merge_overlapped_ranges` assumes that); each deleted range begins where one of
    those begins. -/
theorem format_deleted (s : List Char) (pos : List (Nat × Option Nat)) (o : Bytes)
    (hf : format (bytesOf s) pos = .ok o) :
    ∃ rs bs F, formatCollect (bytesOf s) pos pos = .ok (rs, bs) ∧ o = minusFrom (bytesOf s) 0 F ∧
      (∀ r ∈ F, r.2 ≤ blen s ∧ ∃ x, (x ∈ rs ∨ x ∈ bs) ∧ r.1 = x.1) ∧
      (∀ d, inAny F d = true → inAny rs d = true ∨ inAny bs d = true) ∧
      (StartSorted rs → ∀ d, inAny rs d = true ∨ inAny bs d = true → inAny F d = true) := by
  obtain ⟨rs, bs, hfc, m1, _, heq, _⟩ := format_ok s pos o hf
  refine ⟨rs, bs, _, hfc, heq, fun r hr => ?_, fun d hd => ?_, fun hss d hd => ?_⟩
  · obtain ⟨x, hx, e⟩ := mergeOverlapped_start _ r hr
    exact ⟨(m1 r hr).len, x, (mem_mergeRanges _ _ _ hx).imp id (mem_sortByStart _ _), e⟩
  · obtain ⟨x, hx, hxd⟩ := (inAny_iff _ _).mp (C14.merged_subset _ d hd)
    exact (mem_mergeRanges _ _ _ hx).imp (fun h => (inAny_iff _ _).mpr ⟨x, h, hxd⟩)
      fun h => (inAny_iff _ _).mpr ⟨x, mem_sortByStart _ _ h, hxd⟩
  · obtain ⟨_, hrs, hbs⟩ := formatCollect_eq _ _ _ _ _ hfc
    exact inAny_merged_conv rs bs (fun h => by rw [hbs, List.map_eq_nil_iff.mp (hrs.symm.trans h)]; rfl) hss d hd

end Chiritori.Props.C13

namespace Chiritori
open Spec

/-- `format` deletes whitespace only, in runs each of which touches a seam or the start of a line that begins,
    behind a line break, strictly between a seam and the later seam it is paired with; `bnds` is any set of
    positions that holds those -/
theorem format_anchored (s : List Char) (pos : List (Nat × Option Nat)) (o : Bytes)
    (hf : format (bytesOf s) pos = .ok o) (bnds : List Nat) (hseam : ∀ p ∈ pos, p.1 = 0 ∨ p.1 ∈ bnds)
    (hline : ∀ p ∈ pos, ∀ j q ls, p.2 = some j → pos[j]? = some q → p.1 < ls → ls < q.1 →
      (bytesOf s)[ls - 1]? = some (.lead '\n') → ls ∈ bnds) :
    ∃ F, o = minusFrom (bytesOf s) 0 F ∧ Anchored F (bytesOf s) bnds 0 := by
  obtain ⟨ranges, blocks, F, hfc, heq, _, hsub, _⟩ := Props.C13.format_deleted s pos o hf
  refine ⟨F, heq, fun d hd => ?_⟩
  rcases hsub d hd with h | h <;> obtain ⟨x, hx, hx1, hx2⟩ := (inAny_iff _ d).mp h
  · -- a seam range
    obtain ⟨p, hp, g⟩ := (Props.C14.ranges_local s pos pos ranges blocks hfc).1 x hx
    refine ⟨x.1, x.2, p.1, hx1, hx2, g.le1, g.le2, fun i hi1 hi2 => ?_, (hseam p hp).imp_left Nat.le_of_eq⟩
    obtain ⟨y, hy, hyw⟩ := g.ws i hi1 hi2
    exact ⟨y, hy, isWs_of_isWsByte y hyw⟩
  · -- a block range: the blanks at the beginning of its line
    obtain ⟨p, hp, j, q, hpj, hqj, _, hxb⟩ := blocks_origin _ pos pos ranges blocks hfc x hx
    obtain ⟨ls, ip, a1, a2, a3, a4, a5, a6⟩ := fmtBlockIndent_anchor _ p.1 q.1 x hxb
    have hl := hline p hp j q ls hpj hqj a1 a2 a3
    obtain ⟨_, c1, _, _, c5⟩ := findNextChar_some _ ls ip a4
    obtain ⟨l, rfl⟩ := Nat.exists_eq_add_one_of_ne_zero (Nat.ne_zero_of_lt a1)
    have hblank := (skip_run_blank s (l + 1) ip (nl_next_boundary s l a3).1 c5).1
    refine ⟨l + 1, ip, l + 1, Nat.le_trans a5 hx1, Nat.lt_of_lt_of_le hx2 a6, Nat.le_refl _, c1, fun i hi1 hi2 => ?_,
      Or.inr hl⟩
    obtain ⟨y, hy, hyb⟩ := hblank i hi1 hi2
    exact ⟨y, hy, by rcases hyb with rfl | rfl <;> rfl⟩

end Chiritori
