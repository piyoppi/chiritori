import Chiritori.Model.Remover
/-
  Sorted marker lists, what they cover, and `merge_child_markers` on them.
-/
namespace Chiritori

theorem Rng.contains_iff (r : Rng) (i : Nat) : r.contains i = true ↔ r.1 ≤ i ∧ i < r.2 := by
  simp only [Rng.contains, Bool.and_eq_true, decide_eq_true_eq]

theorem Rng.not_contains (r : Rng) (i : Nat) (h : i < r.1 ∨ r.2 ≤ i) : r.contains i = false := by
  rw [← Bool.not_eq_true, Rng.contains_iff]
  omega

/-- markers are non-empty, increasing, disjoint and lie within `[lo, hi]` -/
def MSorted : List Marker → Nat → Nat → Prop
  | [], lo, hi => lo ≤ hi
  | m :: ms, lo, hi => lo ≤ m.start ∧ m.start < m.stop ∧ MSorted ms m.stop hi

theorem MSorted_le (ms : List Marker) (lo hi : Nat) (h : MSorted ms lo hi) : lo ≤ hi := by
  induction ms generalizing lo with
  | nil => exact h
  | cons m ms ih =>
    obtain ⟨h1, h2, h3⟩ := h
    exact Nat.le_trans h1 (Nat.le_trans (Nat.le_of_lt h2) (ih m.stop h3))

theorem MSorted_widen (ms : List Marker) (lo hi lo' hi' : Nat) (h : MSorted ms lo hi) (h1 : lo' ≤ lo) (h2 : hi ≤ hi') :
    MSorted ms lo' hi' := by
  induction ms generalizing lo lo' with
  | nil => exact Nat.le_trans h1 (Nat.le_trans h h2)
  | cons m ms ih =>
    obtain ⟨g1, g2, g3⟩ := h
    exact ⟨Nat.le_trans h1 g1, g2, ih m.stop m.stop g3 (Nat.le_refl _)⟩

theorem MSorted_append (a b : List Marker) (lo hi : Nat) :
    MSorted (a ++ b) lo hi ↔ ∃ mid, MSorted a lo mid ∧ MSorted b mid hi := by
  induction a generalizing lo with
  | nil =>
    constructor
    · intro h; exact ⟨lo, Nat.le_refl _, h⟩
    · rintro ⟨mid, h1, h2⟩; exact MSorted_widen b mid hi lo hi h2 h1 (Nat.le_refl _)
  | cons m ms ih =>
    simp only [List.cons_append, MSorted, ih]
    constructor
    · rintro ⟨h1, h2, mid, h3, h4⟩; exact ⟨mid, ⟨h1, h2, h3⟩, h4⟩
    · rintro ⟨mid, ⟨h1, h2, h3⟩, h4⟩; exact ⟨h1, h2, mid, h3, h4⟩

theorem MSorted_single (s e : Nat) (p : Option Nat) (lo hi : Nat) :
    MSorted [⟨s, e, p⟩] lo hi ↔ lo ≤ s ∧ s < e ∧ e ≤ hi := Iff.rfl

theorem MSorted_bounds (ms : List Marker) (lo hi : Nat) (h : MSorted ms lo hi) :
    ∀ m ∈ ms, lo ≤ m.start ∧ m.start < m.stop ∧ m.stop ≤ hi := by
  induction ms generalizing lo with
  | nil => intro m hm; cases hm
  | cons a as ih =>
    intro m hm
    obtain ⟨g1, g2, g3⟩ := h
    have hle := MSorted_le as a.stop hi g3
    rcases List.mem_cons.mp hm with rfl | hm
    · exact ⟨g1, g2, hle⟩
    · obtain ⟨b1, b2, b3⟩ := ih _ g3 m hm
      exact ⟨Nat.le_trans g1 (Nat.le_trans (Nat.le_of_lt g2) b1), b2, b3⟩

theorem MSorted_map (f : Marker → Marker) (hf : ∀ m, (f m).start = m.start ∧ (f m).stop = m.stop)
    (ms : List Marker) (lo hi : Nat) :
    MSorted (ms.map f) lo hi ↔ MSorted ms lo hi := by
  induction ms generalizing lo with
  | nil => exact Iff.rfl
  | cons m ms ih => simp only [List.map_cons, MSorted, (hf m).1, (hf m).2, ih]

def MDesc : List Marker → Nat → Nat → Prop
  | [], lo, hi => lo ≤ hi
  | m :: ms, lo, hi => m.stop ≤ hi ∧ m.start < m.stop ∧ MDesc ms lo m.start

theorem MDesc_le (ms : List Marker) (lo hi : Nat) (h : MDesc ms lo hi) : lo ≤ hi := by
  induction ms generalizing hi with
  | nil => exact h
  | cons m ms ih =>
    obtain ⟨h1, h2, h3⟩ := h
    exact Nat.le_trans (ih m.start h3) (Nat.le_trans (Nat.le_of_lt h2) h1)

def mcov (ms : List Marker) (i : Nat) : Prop := ∃ m ∈ ms, m.start ≤ i ∧ i < m.stop

theorem mcov_nil (i : Nat) : ¬ mcov [] i := by simp [mcov]

theorem mcov_cons (c : Marker) (ms : List Marker) (i : Nat) :
    mcov (c :: ms) i ↔ (c.start ≤ i ∧ i < c.stop) ∨ mcov ms i := by
  simp only [mcov, List.mem_cons, exists_eq_or_imp]

theorem mcov_append (a b : List Marker) (i : Nat) : mcov (a ++ b) i ↔ mcov a i ∨ mcov b i := by
  simp only [mcov, List.mem_append, or_and_right, exists_or]

theorem mcov_single (s e : Nat) (p : Option Nat) (i : Nat) : mcov [⟨s, e, p⟩] i ↔ s ≤ i ∧ i < e := by
  simp only [mcov, List.mem_singleton, exists_eq_left]

theorem mcov_reverse (ms : List Marker) (i : Nat) : mcov ms.reverse i ↔ mcov ms i := by
  simp [mcov]

theorem mcov_map (f : Marker → Marker) (hf : ∀ m, (f m).start = m.start ∧ (f m).stop = m.stop)
    (ms : List Marker) (i : Nat) :
    mcov (ms.map f) i ↔ mcov ms i := by
  constructor
  · rintro ⟨x, hx, h⟩
    obtain ⟨m, hm, rfl⟩ := List.mem_map.mp hx
    exact ⟨m, hm, by rwa [(hf m).1, (hf m).2] at h⟩
  · rintro ⟨m, hm, h⟩; exact ⟨f m, List.mem_map_of_mem hm, by rwa [(hf m).1, (hf m).2]⟩

theorem mcov_bounds (ms : List Marker) (lo hi i : Nat) (h : MSorted ms lo hi) (hc : mcov ms i) : lo ≤ i ∧ i < hi := by
  obtain ⟨m, hm, h1, h2⟩ := hc
  obtain ⟨b1, _, b3⟩ := MSorted_bounds ms lo hi h m hm
  exact ⟨Nat.le_trans b1 h1, Nat.lt_of_lt_of_le h2 b3⟩

theorem mergeChildMarkers_cons (c : Marker) (cs : List Marker) (m : Rng) :
    mergeChildMarkers (c :: cs) m =
      if (m.1 ≤ c.start ∧ c.start < m.2) ∨ (m.1 ≤ c.stop ∧ c.stop < m.2) then
        ((mergeChildMarkers cs (min m.1 c.start, max m.2 c.stop)).1 + 1,
         (mergeChildMarkers cs (min m.1 c.start, max m.2 c.stop)).2)
      else (0, m) := by
  simp only [mergeChildMarkers, Bool.or_eq_true, Rng.contains_iff]

theorem hull_of_touching (a b s e i : Nat) (ht : (a ≤ s ∧ s < b) ∨ (a ≤ e ∧ e < b)) :
    (min a s ≤ i ∧ i < max b e) ↔ ((a ≤ i ∧ i < b) ∨ (s ≤ i ∧ i < e)) := by
  rcases ht with ⟨h1, h2⟩ | ⟨h1, h2⟩
  · rw [Nat.min_eq_left h1]
    constructor
    · intro ⟨g1, g2⟩
      rcases Nat.lt_or_ge i b with h | h
      · exact Or.inl ⟨g1, h⟩
      · exact Or.inr ⟨Nat.le_trans (Nat.le_of_lt h2) h,
          Nat.lt_of_not_le fun he => Nat.not_le.mpr g2 (Nat.max_le.mpr ⟨h, he⟩)⟩
    · rintro (⟨g1, g2⟩ | ⟨g1, g2⟩)
      · exact ⟨g1, Nat.lt_of_lt_of_le g2 (Nat.le_max_left _ _)⟩
      · exact ⟨Nat.le_trans h1 g1, Nat.lt_of_lt_of_le g2 (Nat.le_max_right _ _)⟩
  · rw [Nat.max_eq_left (Nat.le_of_lt h2)]
    constructor
    · intro ⟨g1, g2⟩
      rcases Nat.lt_or_ge i a with h | h
      · exact Or.inr ⟨(Std.min_le.mp g1).resolve_left (Nat.not_le.mpr h), Nat.lt_of_lt_of_le h h1⟩
      · exact Or.inl ⟨h, g2⟩
    · rintro (⟨g1, g2⟩ | ⟨g1, g2⟩)
      · exact ⟨Nat.le_trans (Nat.min_le_left _ _) g1, g2⟩
      · exact ⟨Nat.le_trans (Nat.min_le_right _ _) g1, Nat.lt_trans g2 h2⟩

theorem mergeChild_cov (cm : List Marker) (m : Rng) (i : Nat) :
    ((mergeChildMarkers cm m).2.1 ≤ i ∧ i < (mergeChildMarkers cm m).2.2) ↔
      ((m.1 ≤ i ∧ i < m.2) ∨ mcov (cm.take (mergeChildMarkers cm m).1) i) := by
  induction cm generalizing m with
  | nil => simp only [mergeChildMarkers, List.take_nil, mcov_nil, or_false]
  | cons c cs ih =>
    rw [mergeChildMarkers_cons]
    split
    · rename_i ht
      rw [List.take_succ_cons, mcov_cons, ih, hull_of_touching _ _ _ _ i ht, or_assoc]
    · simp only [List.take_zero, mcov_nil, or_false]

/-- The opening part `m` in front of its sorted children: a prefix `A` is merged, the range keeps its start, and
    what is left lies behind the new end. -/
theorem mergeChild_head (cm : List Marker) (m : Rng) (a b : Nat) (hs : MSorted cm a b) (hsa : m.1 ≤ a) (heb : m.2 ≤ b) :
    ∃ A R E, cm = A ++ R ∧ mergeChildMarkers cm m = (A.length, (m.1, E)) ∧ m.2 ≤ E ∧ MSorted R E b ∧
      ∀ i, (m.1 ≤ i ∧ i < E) ↔ ((m.1 ≤ i ∧ i < m.2) ∨ mcov A i) := by
  suffices h : ∃ A R E, cm = A ++ R ∧ mergeChildMarkers cm m = (A.length, (m.1, E)) ∧ m.2 ≤ E ∧ MSorted R E b by
    obtain ⟨A, R, E, rfl, hk, h1, h2⟩ := h
    refine ⟨A, R, E, rfl, hk, h1, h2, fun i => ?_⟩
    have := mergeChild_cov (A ++ R) m i
    rwa [hk, List.take_left] at this
  induction cm generalizing m a with
  | nil => exact ⟨[], [], m.2, rfl, rfl, Nat.le_refl _, heb⟩
  | cons c cs ih =>
    obtain ⟨h1, h2, h3⟩ := hs
    have hmc : m.1 ≤ c.start := Nat.le_trans hsa h1
    rw [mergeChildMarkers_cons]
    by_cases ht : c.start < m.2
    · obtain ⟨A, R, E, hcs, hk, g1, g2⟩ := ih (min m.1 c.start, max m.2 c.stop) c.stop h3
        (Nat.le_trans (Nat.min_le_right _ _) (Nat.le_of_lt h2)) (Nat.max_le.mpr ⟨heb, MSorted_le cs c.stop b h3⟩)
      rw [if_pos (Or.inl ⟨hmc, ht⟩), hk, Nat.min_eq_left hmc]
      exact ⟨c :: A, R, E, by rw [hcs]; rfl, rfl, Nat.le_trans (Nat.le_max_left _ _) g1, g2⟩
    · rw [if_neg fun h => h.elim (fun h => ht h.2) fun h => ht (Nat.lt_trans h2 h.2)]
      exact ⟨[], c :: cs, m.2, rfl, rfl, Nat.le_refl _, Nat.le_of_not_lt ht, h2, h3⟩

/-- `merge_markers` hands the closing part its markers back to front: `l` is the reverse of a sorted list -/
theorem mergeChild_tail_rev (l : List Marker) (m : Rng) (lo b : Nat) (hs : MSorted l.reverse lo b) (hb : b < m.2)
    (hse : m.1 < m.2) :
    ∃ M B T, l.reverse = M ++ B ∧ mergeChildMarkers l m = (B.length, (T, m.2)) ∧ T ≤ m.1 ∧ (lo ≤ T → MSorted M lo T) := by
  induction l generalizing m b with
  | nil => exact ⟨[], [], m.1, rfl, rfl, Nat.le_refl _, fun h => h⟩
  | cons c cs ih =>
    rw [List.reverse_cons, MSorted_append] at hs
    obtain ⟨mid, h3, h1, h2, hcb⟩ := hs
    have hcm : c.stop < m.2 := Nat.lt_of_le_of_lt hcb hb
    rw [mergeChildMarkers_cons, List.reverse_cons]
    by_cases ht : m.1 ≤ c.stop
    · obtain ⟨M, B, T, hcs, hn, g1, g2⟩ := ih (min m.1 c.start, max m.2 c.stop) mid h3
        (Nat.lt_of_lt_of_le (Nat.lt_of_le_of_lt h1 (Nat.lt_trans h2 hcm)) (Nat.le_max_left _ _))
        (Nat.lt_of_le_of_lt (Nat.min_le_left _ _) (Nat.lt_of_lt_of_le hse (Nat.le_max_left _ _)))
      rw [if_pos (Or.inr ⟨ht, hcm⟩), hn, Nat.max_eq_left (Nat.le_of_lt hcm)]
      exact ⟨M, B ++ [c], T, by rw [hcs, List.append_assoc], by rw [List.length_append]; rfl,
        Nat.le_trans g1 (Nat.min_le_left _ _), g2⟩
    · rw [if_neg fun h => h.elim (fun h => ht (Nat.le_trans h.1 (Nat.le_of_lt h2))) fun h => ht h.1]
      exact ⟨cs.reverse ++ [c], [], m.1, (List.append_nil _).symm, rfl, Nat.le_refl _,
        fun _ => (MSorted_append _ _ _ _).mpr ⟨mid, h3, h1, h2, Nat.le_of_lt (Nat.lt_of_not_le ht)⟩⟩

/-- The closing part `m` behind the sorted markers `R`: a suffix `B` is merged, the range keeps its end, and what
    is left lies in front of the new start `T`.  When all of `R` is merged, `T` can lie in front of `lo` (in
    `merge_markers` the two parts of the unwrap node then meet), where `MSorted [] lo T` fails: hence the guard. -/
theorem mergeChild_tail (R : List Marker) (m : Rng) (lo b : Nat) (hs : MSorted R lo b) (hb : b < m.2) (hse : m.1 < m.2) :
    ∃ M B T, R = M ++ B ∧ mergeChildMarkers R.reverse m = (B.length, (T, m.2)) ∧ T ≤ m.1 ∧ (lo ≤ T → MSorted M lo T) ∧
      ∀ i, (T ≤ i ∧ i < m.2) ↔ ((m.1 ≤ i ∧ i < m.2) ∨ mcov B i) := by
  obtain ⟨M, B, T, hR, hn, h1, h2⟩ := mergeChild_tail_rev R.reverse m lo b (by rwa [List.reverse_reverse]) hb hse
  rw [List.reverse_reverse] at hR
  refine ⟨M, B, T, hR, hn, h1, h2, fun i => ?_⟩
  have := mergeChild_cov R.reverse m i
  rwa [hn, hR, List.reverse_append, ← List.length_reverse, List.take_left, mcov_reverse] at this

end Chiritori
