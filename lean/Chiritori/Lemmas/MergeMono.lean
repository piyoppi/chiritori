import Chiritori.Lemmas.FormatMerge
/-
  `merge_overlapped_ranges` uses its ranges only through comparisons of end points; two lists of ranges whose end
  points correspond under an order-preserving relation are merged the same way, and the merged lists cover
  corresponding positions.
-/
namespace Chiritori
open Spec

/-- an order isomorphism between two sets of positions, as a relation -/
def MonoRel (ρ : Nat → Nat → Prop) : Prop := ∀ x x' y y', ρ x x' → ρ y y' → (x ≤ y ↔ x' ≤ y')

def RelR (ρ : Nat → Nat → Prop) (r r' : Rng') : Prop := ρ r.1 r'.1 ∧ ρ r.2 r'.2

def RelRs (ρ : Nat → Nat → Prop) : List Rng' → List Rng' → Prop
  | [], [] => True
  | r :: rs, r' :: rs' => RelR ρ r r' ∧ RelRs ρ rs rs'
  | [], _ :: _ => False
  | _ :: _, [] => False

theorem mergeOverlappedGo_rel (ρ : Nat → Nat → Prop) (hm : MonoRel ρ) :
    ∀ (xs xs' : List Rng') (cur cur' : Rng'), RelR ρ cur cur' → RelRs ρ xs xs' →
    RelRs ρ (mergeOverlappedGo cur xs) (mergeOverlappedGo cur' xs') := by
  intro xs
  induction xs with
  | nil =>
    intro xs' cur cur' hc h
    cases xs' with
    | nil => exact ⟨hc, trivial⟩
    | cons _ _ => exact False.elim h
  | cons x xs ih =>
    intro xs' cur cur' hc h
    cases xs' with
    | nil => exact False.elim h
    | cons x' xs' =>
      obtain ⟨hx, hxs⟩ := h
      simp only [mergeOverlappedGo]
      have e1 : cur.2 ≥ x.1 ↔ cur'.2 ≥ x'.1 := hm x.1 x'.1 cur.2 cur'.2 hx.1 hc.2
      by_cases hge : cur.2 ≥ x.1
      · rw [if_pos hge, if_pos (e1.mp hge)]
        refine ih xs' _ _ ⟨hc.1, ?_⟩ hxs
        have e2 : cur.2 ≤ x.2 ↔ cur'.2 ≤ x'.2 := hm cur.2 cur'.2 x.2 x'.2 hc.2 hx.2
        by_cases hle : cur.2 ≤ x.2
        · rw [Nat.max_eq_right hle, Nat.max_eq_right (e2.mp hle)]; exact hx.2
        · rw [Nat.max_eq_left (Nat.le_of_not_le hle), Nat.max_eq_left (Nat.le_of_not_le (mt e2.mpr hle))]; exact hc.2
      · rw [if_neg hge, if_neg (mt e1.mpr hge)]
        exact ⟨hc, ih xs' x x' hx hxs⟩

theorem mergeOverlapped_rel (ρ : Nat → Nat → Prop) (hm : MonoRel ρ) (l l' : List Rng') (h : RelRs ρ l l') :
    RelRs ρ (mergeOverlapped l) (mergeOverlapped l') := by
  cases l with
  | nil =>
    cases l' with
    | nil => trivial
    | cons _ _ => exact absurd h (by simp [RelRs])
  | cons r rs =>
    cases l' with
    | nil => exact absurd h (by simp [RelRs])
    | cons r' rs' => exact mergeOverlappedGo_rel ρ hm rs rs' r r' h.1 h.2

theorem mergeRanges_nil (ranges : List Rng') : mergeRanges ranges (sortByStart []) = ranges := by
  unfold mergeRanges
  split
  · rfl
  · simp [sortByStart, mergeRangesLoop]

/-- corresponding positions are covered alike -/
theorem inAny_rel (ρ : Nat → Nat → Prop) (hm : MonoRel ρ) : ∀ (F F' : List Rng'), RelRs ρ F F' →
    ∀ d d', ρ d d' → inAny F d = inAny F' d' := by
  intro F
  induction F with
  | nil =>
    intro F' h d d' _
    cases F' with
    | nil => rfl
    | cons _ _ => exact False.elim h
  | cons r rs ih =>
    intro F' h d d' hd
    cases F' with
    | nil => exact False.elim h
    | cons r' rs' =>
      have e2 : d < r.2 ↔ d' < r'.2 := by
        rw [← Nat.not_le, ← Nat.not_le]
        exact not_congr (hm r.2 r'.2 d d' h.1.2 hd)
      rw [inAny_cons, inAny_cons, ih rs' h.2 d d' hd, Rng.contains, Rng.contains,
        decide_eq_decide.mpr (hm r.1 r'.1 d d' h.1.1 hd), decide_eq_decide.mpr e2]

end Chiritori
