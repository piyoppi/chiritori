import Chiritori.Lemmas.KeptTokens
/-
  A finer chain of tokens: every text token is cut into its maximal runs without a line break and its single line
  breaks.  The chain covers the same text, tags are untouched, and every position that stands directly in front of or
  directly behind a line break of a text token is a token boundary of the finer chain - which is where the two parts
  of an unwrapped block begin and end.
-/
namespace Chiritori
open Spec

/-- the maximal runs without a line break, and the line breaks one by one (`cur` = the run collected so far) -/
def nlRuns : List Char → List Char → List (List Char)
  | [], cur => if cur = [] then [] else [cur]
  | c :: cs, cur =>
    if c = '\n' then (if cur = [] then [] else [cur]) ++ (['\n'] :: nlRuns cs [])
    else nlRuns cs (cur ++ [c])

theorem nlRuns_nil (cur : List Char) : nlRuns [] cur = if cur = [] then [] else [cur] := rfl

theorem nlRuns_nl (cs cur : List Char) : nlRuns ('\n' :: cs) cur = nlRuns [] cur ++ ['\n'] :: nlRuns cs [] := by
  simp [nlRuns]

theorem nlRuns_char (c : Char) (cs cur : List Char) (hc : c ≠ '\n') : nlRuns (c :: cs) cur = nlRuns cs (cur ++ [c]) := by
  simp [nlRuns, hc]

theorem nlRuns_spec (s : List Char) : ∀ (cur : List Char), (∀ c ∈ cur, c ≠ '\n') →
    (nlRuns s cur).flatten = cur ++ s ∧ ∀ r ∈ nlRuns s cur, r ≠ [] ∧ (r = ['\n'] ∨ ∀ c ∈ r, c ≠ '\n') := by
  have nil : ∀ cur : List Char, (∀ c ∈ cur, c ≠ '\n') →
      (nlRuns [] cur).flatten = cur ++ [] ∧ ∀ r ∈ nlRuns [] cur, r ≠ [] ∧ (r = ['\n'] ∨ ∀ c ∈ r, c ≠ '\n') := by
    intro cur hcur
    rw [nlRuns_nil]
    by_cases h : cur = []
    · rw [if_pos h, h]
      exact ⟨rfl, fun r hr => nomatch hr⟩
    · rw [if_neg h]
      exact ⟨rfl, fun r hr => List.mem_singleton.mp hr ▸ ⟨h, Or.inr hcur⟩⟩
  induction s with
  | nil => exact nil
  | cons c cs ih =>
    intro cur hcur
    by_cases hc : c = '\n'
    · subst hc
      obtain ⟨a1, a2⟩ := nil cur hcur
      obtain ⟨b1, b2⟩ := ih [] (fun _ h => nomatch h)
      rw [nlRuns_nl]
      refine ⟨by rw [List.flatten_append, List.flatten_cons, a1, b1, List.append_nil]; rfl, fun r hr => ?_⟩
      rcases List.mem_append.mp hr with hr | hr
      · exact a2 r hr
      · rcases List.mem_cons.mp hr with rfl | hr
        · exact ⟨List.cons_ne_nil _ _, Or.inl rfl⟩
        · exact b2 r hr
    · have := ih (cur ++ [c]) fun x hx =>
        (List.mem_append.mp hx).elim (hcur x) fun hx => List.mem_singleton.mp hx ▸ hc
      rwa [nlRuns_char c cs cur hc, show cur ++ c :: cs = cur ++ [c] ++ cs from List.append_cons ..]

theorem nlRuns_append_nl : ∀ (pre post cur : List Char),
    nlRuns (pre ++ '\n' :: post) cur = nlRuns pre cur ++ ['\n'] :: nlRuns post []
  | [], post, cur => nlRuns_nl post cur
  | c :: pre, post, cur => by
    by_cases hc : c = '\n'
    · subst hc
      rw [List.cons_append, nlRuns_nl, nlRuns_nl, nlRuns_append_nl pre post []]
      simp
    · rw [List.cons_append, nlRuns_char _ _ _ hc, nlRuns_char _ _ _ hc, nlRuns_append_nl pre post]

def mkToks (k : TKind) : List (List Char) → Nat → Nat → List Token
  | [], _, _ => []
  | r :: rs, s, bs => ⟨k, r, s, bs, s + r.length, bs + blen r⟩ :: mkToks k rs (s + r.length) (bs + blen r)

theorem mkToks_chain (k : TKind) : ∀ (rs : List (List Char)) (s bs : Nat), (∀ r ∈ rs, r ≠ []) →
    ChainFrom (mkToks k rs s bs) s bs
  | [], _, _, _ => trivial
  | r :: rs, s, bs, h =>
    ⟨rfl, rfl, h r (by simp), rfl, rfl, mkToks_chain k rs _ _ (fun x hx => h x (by simp [hx]))⟩

theorem flat_mkToks (k : TKind) : ∀ (rs : List (List Char)) (s bs : Nat), flat (mkToks k rs s bs) = rs.flatten
  | [], _, _ => rfl
  | r :: rs, s, bs => by simp [mkToks, flat_mkToks k rs]

theorem mkToks_mem (k : TKind) : ∀ (rs : List (List Char)) (s bs : Nat), ∀ t ∈ mkToks k rs s bs, t.kind = k ∧ t.value ∈ rs
  | [], _, _, t, ht => by simp [mkToks] at ht
  | r :: rs, s, bs, t, ht => by
    rcases List.mem_cons.mp ht with rfl | ht
    · exact ⟨rfl, by simp⟩
    · exact (mkToks_mem k rs _ _ t ht).imp id (List.mem_cons_of_mem _)

theorem mkToks_append (k : TKind) : ∀ (a b : List (List Char)) (s bs : Nat),
    mkToks k (a ++ b) s bs = mkToks k a s bs ++ mkToks k b (s + a.flatten.length) (bs + blen a.flatten)
  | [], b, s, bs => by simp [mkToks]
  | r :: rs, b, s, bs => by
    simp [mkToks, mkToks_append k rs b, blen_append, Nat.add_assoc]

def splitTok (t : Token) : List Token :=
  match t.kind with
  | .text => mkToks .text (nlRuns t.value []) t.start t.bstart
  | .element => [t]

def splitToks : List Token → List Token
  | [] => []
  | t :: ts => splitTok t ++ splitToks ts

theorem splitTok_text {t : Token} (h : t.kind = .text) :
    splitTok t = mkToks .text (nlRuns t.value []) t.start t.bstart := by
  simp [splitTok, h]

theorem splitTok_element {t : Token} (h : t.kind = .element) : splitTok t = [t] := by
  simp [splitTok, h]

theorem mem_splitToks (u : Token) : ∀ (T : List Token), u ∈ splitToks T ↔ ∃ t ∈ T, u ∈ splitTok t
  | [] => by simp [splitToks]
  | t :: ts => by simp [splitToks, mem_splitToks u ts]

theorem flat_splitTok (t : Token) : flat (splitTok t) = t.value := by
  cases hk : t.kind with
  | text => rw [splitTok_text hk, flat_mkToks, (nlRuns_spec _ [] (by simp)).1, List.nil_append]
  | element => simp [splitTok_element hk, flat]

theorem flat_splitToks : ∀ (T : List Token), flat (splitToks T) = flat T
  | [] => rfl
  | t :: ts => by simp [splitToks, flat_splitTok, flat_splitToks ts]

theorem splitToks_chain : ∀ (T : List Token) (s bs : Nat), ChainFrom T s bs → ChainFrom (splitToks T) s bs
  | [], _, _, _ => trivial
  | t :: ts, s, bs, ⟨c1, c2, c3, c4, c5, c6⟩ => by
    rw [splitToks, chainFrom_append, flat_splitTok, ← c4, ← c5]
    refine ⟨?_, splitToks_chain ts _ _ c6⟩
    cases hk : t.kind with
    | text =>
      rw [splitTok_text hk, c1, c2]
      exact mkToks_chain .text _ s bs fun r hr => ((nlRuns_spec _ [] (by simp)).2 r hr).1
    | element => rw [splitTok_element hk]; exact ⟨c1, c2, c3, c4, c5, trivial⟩

theorem splitToks_tags : ∀ (T : List Token),
    (splitToks T).filter (fun t => t.kind = .element) = T.filter (fun t => t.kind = .element)
  | [] => rfl
  | t :: ts => by
    rw [splitToks, List.filter_append, splitToks_tags ts, List.filter_cons]
    cases hk : t.kind with
    | text =>
      have : (splitTok t).filter (fun t => t.kind = .element) = [] := by
        rw [splitTok_text hk, List.filter_eq_nil_iff]
        intro u hu
        simp [(mkToks_mem .text _ _ _ u hu).1]
      simp [this]
    | element => simp [splitTok_element hk, hk]

theorem splitToks_mem (T : List Token) (u : Token) (hu : u ∈ splitToks T) :
    (u.kind = .element ∧ u ∈ T) ∨
    (u.kind = .text ∧ (u.value = ['\n'] ∨ ∀ c ∈ u.value, c ≠ '\n') ∧ ∃ t ∈ T, t.kind = .text ∧ ∀ c ∈ u.value, c ∈ t.value) := by
  obtain ⟨t, ht, hut⟩ := (mem_splitToks u T).mp hu
  cases hk : t.kind with
  | element =>
    rw [splitTok_element hk, List.mem_singleton] at hut
    exact Or.inl ⟨hut ▸ hk, hut ▸ ht⟩
  | text =>
    rw [splitTok_text hk] at hut
    obtain ⟨h1, h2⟩ := mkToks_mem .text _ _ _ u hut
    obtain ⟨hfl, hsh⟩ := nlRuns_spec t.value [] (by simp)
    refine Or.inr ⟨h1, (hsh _ h2).2, t, ht, hk, fun c hc => ?_⟩
    rw [← List.nil_append t.value, ← hfl]
    exact List.mem_flatten.mpr ⟨_, h2, hc⟩

end Chiritori
