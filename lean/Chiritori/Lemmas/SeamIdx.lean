import Chiritori.Lemmas.PosCorr
import Chiritori.Lemmas.KeptTokens
import Chiritori.Lemmas.Respell
/-
  Where the seams are, counted in surviving tokens: the seam of a removed element lies behind as many surviving
  tokens as precede the element (`seam_parts`), a number that depends only on the shape of the forest and on which
  elements are removed (`Alike.seamIdx`).
-/
namespace Chiritori
open Spec

mutual
/-- the seams of a forest as indices into the list of surviving tokens; the second component counts those tokens -/
def seamIdxParts (P : Element → Bool) : List Part → Nat → List Nat × Nat
  | [], n => ([], n)
  | p :: ps, n =>
    ((seamIdxPart P p n).1 ++ (seamIdxParts P ps (seamIdxPart P p n).2).1, (seamIdxParts P ps (seamIdxPart P p n).2).2)
def seamIdxPart (P : Element → Bool) : Part → Nat → List Nat × Nat
  | .text _, n => ([], n + 1)
  | .element el _ _ ch, n => if P el then ([n], n) else ((seamIdxParts P ch (n + 1)).1, (seamIdxParts P ch (n + 1)).2 + 1)
end

theorem seamIdx_count (P : Element → Bool) : ∀ (parts : List Part) (n : Nat),
    (seamIdxParts P parts n).2 = n + (flattenParts (pruneParts P parts)).length := by
  intro parts
  induction parts using parts_induction with
  | nil => intro n; rfl
  | text t rest ih =>
    intro n
    simp only [seamIdxParts, seamIdxPart, pruneParts, prunePart, flattenParts_append, flattenParts, flattenPart,
      List.append_nil, List.length_append, List.length_cons, List.length_nil, ih]
    omega
  | element el st en ch rest ihc ih =>
    intro n
    simp only [seamIdxParts, seamIdxPart, pruneParts, prunePart]
    split
    · rw [ih]; rfl
    · simp only [flattenParts_append, flattenParts, flattenPart, List.append_nil, List.length_append, List.length_cons,
        List.length_nil, ih, ihc]
      omega

theorem seamIdxPart_count (P : Element → Bool) (p : Part) (n : Nat) :
    (seamIdxPart P p n).2 = n + (flattenParts (prunePart P p)).length := by
  have := seamIdx_count P [p] n
  simpa only [seamIdxParts, pruneParts, List.append_nil] using this

theorem Alike.seamIdx {Q : Token → Token → Prop} {E : Element → Element → Prop} {P P' : Element → Bool}
    (hP : ∀ e e', E e e' → P' e' = P e) {a b : List Part} (h : Alike Q E a b) :
    ∀ n, seamIdxParts P a n = seamIdxParts P' b n := by
  induction h with
  | nil => intro n; rfl
  | text _ _ ih => intro n; simp only [seamIdxParts, seamIdxPart, ih]
  | element he _ _ _ _ ihc ih => intro n; simp only [seamIdxParts, seamIdxPart, hP _ _ he, ihc, ih]

theorem seamIdx_x (ds de ds' de' : List Char) (R : Token → Token → Prop) (P : Element → Bool) :
    ∀ (a b : List Part) (n : Nat), partsX ds de ds' de' R a b → seamIdxParts P a n = seamIdxParts P b n :=
  fun a b n h => ((partsX_iff ds de ds' de' R a b).mp h).seamIdx (fun _ _ he => by rw [he]) n

theorem seamIdxPart_x (ds de ds' de' : List Char) (R : Token → Token → Prop) (P : Element → Bool) :
    ∀ (p q : Part) (n : Nat), partX ds de ds' de' R p q → seamIdxPart P p n = seamIdxPart P q n := by
  intro p q n h
  have := seamIdx_x ds de ds' de' R P [p] [q] n ⟨h, trivial⟩
  simpa only [seamIdxParts, List.append_nil] using this

theorem koff_at (X : List Rng) (T : List Token) (hc : ChainFrom T 0 0) (hw : Wholly X T) (pre post : List Token) (t : Token)
    (hT : T = pre ++ t :: post) :
    koffTo X (bytesOf (flat T)) t.bstart = bnd (T.filter (keepTok X)) (pre.filter (keepTok X)).length := by
  subst hT
  rw [koffTo_token_start X pre post t hc hw, bnd, List.filter_append, List.take_left' rfl]

/-- a part and a forest inside the forest of `T`, behind the tokens `A`: the seam of each removed element is the
    boundary behind the surviving tokens in front of it -/
theorem seam_part_parts (cfg : Cfg) (X : List Rng) (T : List Token) (hc : ChainFrom T 0 0) (hw : Wholly X T) :
    (∀ (p : Part) (lo hi : Nat) (A C : List Token),
      BSpan (flattenPart p) lo hi → (∀ e ∈ elementsOfPart p, hasAttr e.1 "unwrap-block" = false) →
      (∀ i, lo ≤ i → i < hi → inAny X i = inAny (extentsOfPart cfg (bytesOf (flat T)) p) i) →
      T = A ++ (flattenPart p ++ C) →
      (refRegionsPart (conditionHolds cfg) (bytesOf (flat T)) p).map (fun r => koffTo X (bytesOf (flat T)) r.1) =
        (seamIdxPart (conditionHolds cfg) p (A.filter (keepTok X)).length).1.map (bnd (T.filter (keepTok X)))) ∧
    (∀ (parts : List Part) (lo hi : Nat) (A C : List Token),
      BSpan (flattenParts parts) lo hi → (∀ e ∈ elementsOf parts, hasAttr e.1 "unwrap-block" = false) →
      (∀ i, lo ≤ i → i < hi → inAny X i = inAny (extentsOfParts cfg (bytesOf (flat T)) parts) i) →
      T = A ++ (flattenParts parts ++ C) →
      (refRegions (conditionHolds cfg) (bytesOf (flat T)) parts).map (fun r => koffTo X (bytesOf (flat T)) r.1) =
        (seamIdxParts (conditionHolds cfg) parts (A.filter (keepTok X)).length).1.map (bnd (T.filter (keepTok X)))) := by
  apply part_parts_induction
  · intros; rfl
  · intro el st en ch ih lo hi A C hs hnu hX hT
    obtain ⟨rfl, hst2, mid, hch, rfl, hen2, rfl⟩ := (BSpan_element_iff el st en ch lo hi).mp hs
    have hmid := BSpan_le _ st.bstop en.bstart hch
    have hlt : st.bstart < en.bstop := by omega
    have hext := extentOf_default (bytesOf (flat T)) el st en (hnu (el, st, en) List.mem_cons_self) hlt
    simp only [refRegionsPart, seamIdxPart]
    by_cases hcnd : conditionHolds cfg el = true
    · rw [if_pos hcnd, if_pos hcnd, hext]
      simp only [List.map_cons, List.map_nil]
      rw [koff_at X T hc hw A (flattenParts ch ++ [en] ++ C) st (by rw [hT]; simp [flattenPart, List.append_assoc])]
    · rw [if_neg hcnd, if_neg hcnd]
      have hnuc : ∀ e ∈ elementsOf ch, hasAttr e.1 "unwrap-block" = false := fun e he => hnu e (by simp [elementsOfPart, he])
      have hnrc : NoReadyUnwrap cfg ch := fun e he _ => hnuc e he
      obtain ⟨hXc, houtL, _⟩ := element_stays cfg _ X el st en ch hst2 hen2 hch hnrc hcnd hX
      have hkeep : keepTok X st = true := by rw [keepTok, houtL st.bstart (Nat.le_refl _) hst2]; rfl
      have hn : ((A ++ [st]).filter (keepTok X)).length = (A.filter (keepTok X)).length + 1 := by
        simp [List.filter_append, hkeep]
      rw [← hn]
      exact ih st.bstop en.bstart (A ++ [st]) ([en] ++ C) hch hnuc
        (fun i h1 h2 => hXc i (by omega) (by omega)) (by rw [hT]; simp [flattenPart, List.append_assoc])
  · intros; rfl
  · intro p ps ihp ihps lo hi A C hs hnu hX hT
    simp only [flattenParts, BSpan_append] at hs
    obtain ⟨mid, hs1, hs2⟩ := hs
    have hnu1 : ∀ e ∈ elementsOfPart p, hasAttr e.1 "unwrap-block" = false := fun e he => hnu e (by simp [elementsOf, he])
    have hnu2 : ∀ e ∈ elementsOf ps, hasAttr e.1 "unwrap-block" = false := fun e he => hnu e (by simp [elementsOf, he])
    obtain ⟨hX1, hX2⟩ := extents_agree_cons cfg _ X p ps lo mid hi hs1 hs2 (fun e he _ => hnu e he) hX
    obtain ⟨a1, _⟩ := prunePart_tokens cfg (bytesOf (flat T)) X p lo mid hs1 (fun e he _ => hnu1 e he) hX1
    have e1 := ihp lo mid A (flattenParts ps ++ C) hs1 hnu1 hX1 (by rw [hT]; simp [flattenParts, List.append_assoc])
    have e2 := ihps mid hi (A ++ flattenPart p) C hs2 hnu2 hX2 (by rw [hT]; simp [flattenParts, List.append_assoc])
    have hn : ((A ++ flattenPart p).filter (keepTok X)).length =
        (seamIdxPart (conditionHolds cfg) p (A.filter (keepTok X)).length).2 := by
      rw [seamIdxPart_count, List.filter_append, List.length_append, a1]
      rfl
    simp only [refRegions, seamIdxParts, List.map_append]
    rw [e1, e2, hn]

theorem seam_parts (cfg : Cfg) (X : List Rng) (T : List Token) (hc : ChainFrom T 0 0) (hw : Wholly X T) :
    ∀ (parts : List Part) (lo hi : Nat) (A C : List Token),
    BSpan (flattenParts parts) lo hi → (∀ e ∈ elementsOf parts, hasAttr e.1 "unwrap-block" = false) →
    (∀ i, lo ≤ i → i < hi → inAny X i = inAny (extentsOfParts cfg (bytesOf (flat T)) parts) i) →
    T = A ++ (flattenParts parts ++ C) →
    (refRegions (conditionHolds cfg) (bytesOf (flat T)) parts).map (fun r => koffTo X (bytesOf (flat T)) r.1) =
      (seamIdxParts (conditionHolds cfg) parts (A.filter (keepTok X)).length).1.map (bnd (T.filter (keepTok X))) :=
  (seam_part_parts cfg X T hc hw).2

theorem seamPart_parts (cfg : Cfg) (X : List Rng) (T : List Token) (hc : ChainFrom T 0 0) (hw : Wholly X T) :
    ∀ (p : Part) (lo hi : Nat) (A C : List Token),
    BSpan (flattenPart p) lo hi → (∀ e ∈ elementsOfPart p, hasAttr e.1 "unwrap-block" = false) →
    (∀ i, lo ≤ i → i < hi → inAny X i = inAny (extentsOfPart cfg (bytesOf (flat T)) p) i) →
    T = A ++ (flattenPart p ++ C) →
    (refRegionsPart (conditionHolds cfg) (bytesOf (flat T)) p).map (fun r => koffTo X (bytesOf (flat T)) r.1) =
      (seamIdxPart (conditionHolds cfg) p (A.filter (keepTok X)).length).1.map (bnd (T.filter (keepTok X))) :=
  (seam_part_parts cfg X T hc hw).1

end Chiritori
