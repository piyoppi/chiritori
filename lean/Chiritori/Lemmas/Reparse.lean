import Chiritori.Lemmas.StackParse
import Chiritori.Lemmas.Induction
/-
  Re-parsing: a forest the parser can produce (`OKS`) is a fixed point of `parse ∘ flatten`, the parser's output
  is such a forest, and so is what remains of it when whole elements are taken out.  Hence removing elements from
  a document and parsing the rest gives the rest of the forest: removals create no new pairings.
-/
namespace Chiritori
open Spec

/-- the names open behind a part: a tag left as text (an unclosed opener) stays open for its later siblings -/
def ctxOf (ds de : List Char) (names : List (List Char)) : Part → List (List Char)
  | .text t => match elparse ds de t with
    | none => names
    | some el => el.name :: names
  | .element _ _ _ _ => names

/-- names of the unclosed openers at the top level of a sibling list -/
def demotedNames (ds de : List Char) : List Part → List (List Char)
  | [] => []
  | .text t :: rest => (match elparse ds de t with | some el => [el.name] | none => []) ++ demotedNames ds de rest
  | .element _ _ _ _ :: rest => demotedNames ds de rest

mutual
/-- sibling lists the stack machine can produce under the open names `names` (innermost first) -/
def OKS (ds de : List Char) : List (List Char) → List Part → Prop
  | _, [] => True
  | names, p :: rest => OKP ds de names p ∧ OKS ds de (ctxOf ds de names p) rest
def OKP (ds de : List Char) : List (List Char) → Part → Prop
  | names, .text t => match elparse ds de t with
    | none => True
    | some el => ¬ closerCond el names
  | names, .element el st en ch =>
    elparse ds de st = some el ∧ ¬ closerCond el names ∧
    (∃ e', elparse ds de en = some e' ∧ e'.name.head? = some '/' ∧ trimSlashes e'.name = el.name) ∧
    OKS ds de (el.name :: names) ch ∧ el.name ∉ demotedNames ds de ch
end

/-- the state of the machine after it has consumed the tokens of a sibling list -/
def distribute (ds de : List Char) : List Frame × List Part → List Part → List Frame × List Part
  | st, [] => st
  | (S, r), .text t :: rest =>
    match elparse ds de t with
    | none => distribute ds de (appendTo S r [.text t]) rest
    | some el => distribute ds de (⟨t, el, []⟩ :: S, r) rest
  | (S, r), .element el st en ch :: rest => distribute ds de (appendTo S r [.element el st en ch]) rest

theorem demotedNames_append (ds de : List Char) (a b : List Part) :
    demotedNames ds de (a ++ b) = demotedNames ds de a ++ demotedNames ds de b := by
  induction a with
  | nil => rfl
  | cons p ps ih => cases p <;> simp [demotedNames, ih]

theorem demotedNames_cons (ds de : List Char) (p : Part) (ps : List Part) :
    demotedNames ds de (p :: ps) = demotedNames ds de [p] ++ demotedNames ds de ps :=
  demotedNames_append ds de [p] ps

theorem ctxOf_eq (ds de : List Char) (names : List (List Char)) (p : Part) :
    ctxOf ds de names p = (demotedNames ds de [p]).reverse ++ names := by
  cases p with
  | text t => cases h : elparse ds de t <;> simp [ctxOf, demotedNames, h]
  | element => rfl

theorem distribute_cons (ds de : List Char) (st : List Frame × List Part) (p : Part) (rest : List Part) :
    distribute ds de st (p :: rest) = distribute ds de (distribute ds de st [p]) rest := by
  obtain ⟨S, r⟩ := st
  cases p with
  | text t => simp only [distribute]; split <;> rfl
  | element => rfl

/-- a part as the machine sees it: an unclosed opener gets a frame of its own, anything else joins the innermost frame -/
theorem part_cases (ds de : List Char) (p : Part) :
    (demotedNames ds de [p] = [] ∧ ∀ S r, distribute ds de (S, r) [p] = appendTo S r [p]) ∨
    ∃ t el, p = .text t ∧ elparse ds de t = some el ∧ demotedNames ds de [p] = [el.name] ∧
      ∀ S r, distribute ds de (S, r) [p] = (⟨t, el, []⟩ :: S, r) := by
  cases p with
  | text t =>
    cases h : elparse ds de t with
    | none => exact .inl ⟨by simp [demotedNames, h], fun S r => by simp [distribute, h]⟩
    | some el => exact .inr ⟨t, el, rfl, h, by simp [demotedNames, h], fun S r => by simp [distribute, h]⟩
  | element => exact .inl ⟨rfl, fun S r => rfl⟩

theorem OKS_append (ds de : List Char) (a b : List Part) (names : List (List Char)) :
    OKS ds de names (a ++ b) ↔ OKS ds de names a ∧ OKS ds de ((demotedNames ds de a).reverse ++ names) b := by
  induction a generalizing names with
  | nil => simp [OKS, demotedNames]
  | cons p ps ih =>
    simp only [List.cons_append, OKS, ih, and_assoc]
    rw [demotedNames_cons, ctxOf_eq]
    simp

theorem OKS_append_nodemoted (ds de : List Char) (a b : List Part) (names : List (List Char))
    (h : demotedNames ds de a = []) : OKS ds de names (a ++ b) ↔ OKS ds de names a ∧ OKS ds de names b := by
  rw [OKS_append, h]; rfl

theorem finishStack_distribute (ds de : List Char) (ch : List Part) (st : List Frame × List Part) (h : List Part) :
    finishStack (distribute ds de st ch).1 h (distribute ds de st ch).2 = finishStack st.1 (ch ++ h) st.2 := by
  induction ch generalizing st with
  | nil => rfl
  | cons p rest ih =>
    obtain ⟨S, r⟩ := st
    rw [distribute_cons, ih]
    rcases part_cases ds de p with ⟨-, hp⟩ | ⟨t, el, rfl, -, -, hp⟩
    · rw [hp, finishStack_appendTo]; rfl
    · rw [hp]; rfl

theorem closeFrame_distribute (ds de : List Char) (name : List Char) (c : Token) (ch : List Part)
    (st : List Frame × List Part) (h : List Part) (hn : name ∉ demotedNames ds de ch) :
    closeFrame name c (distribute ds de st ch).1 (distribute ds de st ch).2 h = closeFrame name c st.1 st.2 (ch ++ h) := by
  induction ch generalizing st with
  | nil => rfl
  | cons p rest ih =>
    obtain ⟨S, r⟩ := st
    rw [demotedNames_cons, List.mem_append, not_or] at hn
    rw [distribute_cons, ih _ hn.2]
    rcases part_cases ds de p with ⟨-, hp⟩ | ⟨t, el, rfl, -, hd, hp⟩
    · rw [hp, closeFrame_appendTo]; rfl
    · rw [hp, closeFrame_cons_ne]
      · rfl
      · rw [hd] at hn; simpa [eq_comm] using hn.1

theorem frameNames_distribute (ds de : List Char) (ch : List Part) (st : List Frame × List Part) :
    frameNames (distribute ds de st ch).1 = (demotedNames ds de ch).reverse ++ frameNames st.1 := by
  induction ch generalizing st with
  | nil => rfl
  | cons p rest ih =>
    obtain ⟨S, r⟩ := st
    rw [distribute_cons, ih, demotedNames_cons]
    rcases part_cases ds de p with ⟨hd, hp⟩ | ⟨t, el, rfl, -, hd, hp⟩
    · rw [hp, hd, frameNames_appendTo]; rfl
    · rw [hp, hd]; simp [frameNames]

theorem run_part_parts (ds de : List Char) :
    (∀ (p : Part) (st : List Frame × List Part), OKP ds de (frameNames st.1) p →
      runM ds de st (flattenPart p) = distribute ds de st [p]) ∧
    (∀ (H : List Part) (st : List Frame × List Part), OKS ds de (frameNames st.1) H →
      runM ds de st (flattenParts H) = distribute ds de st H) := by
  apply part_parts_induction
  · intro t ⟨S, r⟩ h
    simp only [OKP] at h
    simp only [flattenPart, runM, List.foldl_cons, List.foldl_nil, distribute]
    cases he : elparse ds de t with
    | none => exact stackStep_text ds de S r t he
    | some el => rw [he] at h; exact stackStep_open ds de S r t el he h
  · intro el st en ch ih ⟨S, r⟩ h
    obtain ⟨h1, h2, ⟨e', h3, h4, h5⟩, h6, h7⟩ := h
    have hD := ih (⟨st, el, []⟩ :: S, r) h6
    have hflat : flattenPart (.element el st en ch) = st :: (flattenParts ch ++ [en]) := by simp [flattenPart]
    rw [hflat, runM_cons, stackStep_open ds de S r st el h1 h2, runM_append, hD]
    -- the closing tag finds the frame of `st` below those of the unclosed openers among the children
    have hcc : closerCond e' (frameNames (distribute ds de (⟨st, el, []⟩ :: S, r) ch).1) := by
      refine ⟨h4, ?_⟩
      rw [frameNames_distribute, h5]
      simp [frameNames]
    obtain ⟨st', hcf, hstep⟩ := stackStep_close ds de _ (distribute ds de (⟨st, el, []⟩ :: S, r) ch).2 en e' h3 hcc
    rw [h5, (closeFrame_distribute ds de el.name en ch _ [] h7).trans
      (closeFrame_cons_eq el.name en ⟨st, el, []⟩ S r _ rfl)] at hcf
    rw [← Option.some.inj hcf] at hstep
    simpa [runM, distribute] using hstep
  · intro st _; rfl
  · intro p ps ihp ihps st h
    obtain ⟨h1, h2⟩ := h
    rw [flattenParts, runM_append, ihp st h1, distribute_cons ds de st p ps]
    apply ihps
    rw [frameNames_distribute, ← ctxOf_eq]
    exact h2

theorem run_parts (ds de : List Char) (H : List Part) (S : List Frame) (r : List Part)
    (h : OKS ds de (frameNames S) H) : runM ds de (S, r) (flattenParts H) = distribute ds de (S, r) H :=
  (run_part_parts ds de).2 H (S, r) h

theorem run_part (ds de : List Char) : ∀ (p : Part) (S : List Frame) (r : List Part),
    OKP ds de (frameNames S) p → runM ds de (S, r) (flattenPart p) = distribute ds de (S, r) [p] :=
  fun p S r h => (run_part_parts ds de).1 p (S, r) h

/-- a forest the machine can produce is what the machine makes of its tokens -/
theorem stackParse_flatten_of_OKS (ds de : List Char) (H : List Part) (h : OKS ds de [] H) :
    stackParse ds de (flattenParts H) = H := by
  have := finishStack_distribute ds de H ([], []) []
  rw [← run_parts ds de H [] [] h] at this
  simpa [stackParse, runM, finishStack] using this

/-- a frame of the machine: its tag is not a closer of what is open below it, its parts are fine and contain no
    unclosed opener at the top level (those sit in the frames above) -/
def FrameOK (ds de : List Char) (below : List (List Char)) (f : Frame) : Prop :=
  elparse ds de f.tok = some f.el ∧ ¬ closerCond f.el below ∧ OKS ds de (f.el.name :: below) f.parts ∧
  demotedNames ds de f.parts = []

def StackOK (ds de : List Char) : List Frame → Prop
  | [] => True
  | f :: fs => FrameOK ds de (frameNames fs) f ∧ StackOK ds de fs

def StateOK (ds de : List Char) (st : List Frame × List Part) : Prop :=
  StackOK ds de st.1 ∧ OKS ds de [] st.2 ∧ demotedNames ds de st.2 = []

theorem appendTo_ok (ds de : List Char) (S : List Frame) (r : List Part) (p : Part)
    (h : StateOK ds de (S, r)) (hp : OKP ds de (frameNames S) p) (hd : demotedNames ds de [p] = []) :
    StateOK ds de (appendTo S r [p]) := by
  obtain ⟨h1, h2, h3⟩ := h
  cases S with
  | nil =>
    exact ⟨trivial, (OKS_append_nodemoted ds de r [p] [] h3).2 ⟨h2, hp, trivial⟩,
      (demotedNames_append ds de r [p]).trans (by rw [h3, hd]; rfl)⟩
  | cons f fs =>
    obtain ⟨⟨f1, f2, f3, f4⟩, hs⟩ := h1
    exact ⟨⟨⟨f1, f2, (OKS_append_nodemoted ds de f.parts [p] _ f4).2 ⟨f3, hp, trivial⟩,
      (demotedNames_append ds de f.parts [p]).trans (by rw [f4, hd]; rfl)⟩, hs⟩, h2, h3⟩

/-- demoting a frame: its tag becomes an unclosed opener in front of its parts and of what was hoisted so far -/
theorem demote_ok (ds de : List Char) (below : List (List Char)) (f : Frame) (h : List Part)
    (hf : FrameOK ds de below f) (hh : OKS ds de (f.el.name :: below) h) :
    OKS ds de below (.text f.tok :: (f.parts ++ h)) ∧
    demotedNames ds de (.text f.tok :: (f.parts ++ h)) = f.el.name :: demotedNames ds de h := by
  obtain ⟨f1, f2, f3, f4⟩ := hf
  refine ⟨?_, by simp [demotedNames, f1, demotedNames_append, f4]⟩
  simp only [OKS, OKP, f1, ctxOf]
  exact ⟨f2, (OKS_append_nodemoted ds de f.parts h _ f4).2 ⟨f3, hh⟩⟩

theorem closeFrame_ok (ds de : List Char) (name : List Char) (c : Token) (e' : Element)
    (hc1 : elparse ds de c = some e') (hc2 : e'.name.head? = some '/') (hc3 : trimSlashes e'.name = name)
    (S : List Frame) (r h : List Part) (res : List Frame × List Part)
    (hst : StateOK ds de (S, r)) (hh : OKS ds de (frameNames S) h) (hn : name ∉ demotedNames ds de h)
    (hcl : closeFrame name c S r h = some res) : StateOK ds de res := by
  induction S generalizing h with
  | nil => simp [closeFrame] at hcl
  | cons f fs ih =>
    obtain ⟨⟨hf, hs⟩, h2, h3⟩ := hst
    by_cases hm : f.el.name = name
    · rw [closeFrame_cons_eq name c f fs r h hm, Option.some.injEq] at hcl
      obtain ⟨f1, f2, f3, f4⟩ := hf
      rw [← hcl]
      refine appendTo_ok ds de fs r _ ⟨hs, h2, h3⟩ ⟨f1, f2, ⟨e', hc1, hc2, hc3.trans hm.symm⟩, ?_, ?_⟩ rfl
      · exact (OKS_append_nodemoted ds de f.parts h _ f4).2 ⟨f3, hh⟩
      · rw [demotedNames_append, f4, hm]; exact hn
    · rw [closeFrame_cons_ne name c f fs r h hm] at hcl
      obtain ⟨d1, d2⟩ := demote_ok ds de _ f h hf hh
      exact ih _ ⟨hs, h2, h3⟩ d1 (by rw [d2]; exact fun hx => (List.mem_cons.mp hx).elim (fun e => hm e.symm) hn) hcl

theorem stackStep_ok (ds de : List Char) (st : List Frame × List Part) (t : Token) (h : StateOK ds de st) :
    StateOK ds de (stackStep ds de st t) := by
  obtain ⟨S, r⟩ := st
  cases he : elparse ds de t with
  | none =>
    rw [stackStep_text ds de S r t he]
    exact appendTo_ok ds de S r _ h (by simp [OKP, he]) (by simp [demotedNames, he])
  | some el =>
    by_cases hc : closerCond el (frameNames S)
    · obtain ⟨st', hcf, hstep⟩ := stackStep_close ds de S r t el he hc
      rw [hstep]
      exact closeFrame_ok ds de _ t el he hc.1 rfl S r [] st' h trivial (by simp [demotedNames]) hcf
    · rw [stackStep_open ds de S r t el he hc]
      exact ⟨⟨⟨he, hc, trivial, rfl⟩, h.1⟩, h.2⟩

theorem runM_ok (ds de : List Char) (toks : List Token) (st : List Frame × List Part) (h : StateOK ds de st) :
    StateOK ds de (runM ds de st toks) := by
  induction toks generalizing st with
  | nil => exact h
  | cons t ts ih => exact ih _ (stackStep_ok ds de st t h)

theorem finishStack_ok (ds de : List Char) (S : List Frame) (r h : List Part)
    (hst : StateOK ds de (S, r)) (hh : OKS ds de (frameNames S) h) : OKS ds de [] (finishStack S h r) := by
  induction S generalizing h with
  | nil => exact (OKS_append_nodemoted ds de r h [] hst.2.2).2 ⟨hst.2.1, hh⟩
  | cons f fs ih => exact ih _ ⟨hst.1.2, hst.2⟩ (demote_ok ds de _ f h hst.1.1 hh).1

theorem stackParse_OKS (ds de : List Char) (toks : List Token) : OKS ds de [] (stackParse ds de toks) := by
  have h := runM_ok ds de toks ([], []) ⟨trivial, trivial, rfl⟩
  exact finishStack_ok ds de _ _ [] h trivial

theorem parse_OKS (ds de : List Char) (toks : List Token) : OKS ds de [] (parse ds de toks) := by
  rw [parse_eq_stackParse]; exact stackParse_OKS ds de toks

mutual
/-- the forest without the elements selected by `P` (with everything inside them) -/
def pruneParts (P : Element → Bool) : List Part → List Part
  | [] => []
  | p :: ps => prunePart P p ++ pruneParts P ps
def prunePart (P : Element → Bool) : Part → List Part
  | .text t => [.text t]
  | .element el st en ch => if P el then [] else [.element el st en (pruneParts P ch)]
end

theorem OKP_children (ds de : List Char) (names : List (List Char)) (el : Element) (st en : Token) (ch ch' : List Part)
    (h : OKP ds de names (.element el st en ch)) (hch : OKS ds de (el.name :: names) ch')
    (hd : demotedNames ds de ch' = demotedNames ds de ch) : OKP ds de names (.element el st en ch') :=
  ⟨h.1, h.2.1, h.2.2.1, hch, by rw [hd]; exact h.2.2.2.2⟩

theorem demotedNames_prune (ds de : List Char) (P : Element → Bool) (H : List Part) :
    demotedNames ds de (pruneParts P H) = demotedNames ds de H := by
  induction H using parts_induction with
  | nil => rfl
  | text t rest ih => simp only [pruneParts, prunePart, List.singleton_append, demotedNames, ih]
  | element el st en ch rest _ ih =>
    simp only [pruneParts, prunePart, demotedNames]
    split <;> simp [demotedNames, ih]

theorem OKS_prune (ds de : List Char) (P : Element → Bool) (H : List Part) (names : List (List Char))
    (h : OKS ds de names H) : OKS ds de names (pruneParts P H) := by
  induction H using parts_induction generalizing names with
  | nil => trivial
  | text t rest ih => exact ⟨h.1, ih _ h.2⟩
  | element el st en ch rest ihc ihr =>
    simp only [pruneParts, prunePart]
    split
    · exact ihr names h.2
    · exact ⟨OKP_children ds de names el st en ch _ h.1 (ihc _ h.1.2.2.2.1) (demotedNames_prune ds de P ch),
        ihr names h.2⟩

/-- removals create no new pairings: parsing what is left of a document after whole elements were taken out
    gives what is left of its forest -/
theorem parse_pruned (ds de : List Char) (P : Element → Bool) (toks : List Token) :
    parse ds de (flattenParts (pruneParts P (parse ds de toks))) = pruneParts P (parse ds de toks) := by
  rw [parse_eq_stackParse ds de (flattenParts _)]
  exact stackParse_flatten_of_OKS ds de _ (OKS_prune ds de P _ [] (parse_OKS ds de toks))

end Chiritori
