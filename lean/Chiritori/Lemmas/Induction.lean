import Chiritori.Model.Remover
/-
  Induction over forests. `Part` and `RTree` are nested inductive types (an element holds the list of its children):
  a recursive proof about them is compiled through auxiliary definitions, which is slow, so the proofs about forests
  go through these principles, which are the types' own recursors with the motives for a forest.
-/
namespace Chiritori

theorem part_parts_induction {mp : Part → Prop} {ml : List Part → Prop}
    (text : ∀ t, mp (.text t)) (element : ∀ el st en ch, ml ch → mp (.element el st en ch))
    (nil : ml []) (cons : ∀ p ps, mp p → ml ps → ml (p :: ps)) : (∀ p, mp p) ∧ ∀ ps, ml ps :=
  ⟨fun p => Part.rec (motive_1 := mp) (motive_2 := ml) text element nil cons p,
   fun ps => Part.rec_1 (motive_1 := mp) (motive_2 := ml) text element nil cons ps⟩

theorem parts_induction {motive : List Part → Prop} (nil : motive [])
    (text : ∀ t rest, motive rest → motive (.text t :: rest))
    (element : ∀ el st en ch rest, motive ch → motive rest → motive (.element el st en ch :: rest))
    (parts : List Part) : motive parts :=
  (part_parts_induction (mp := fun p => ∀ rest, motive rest → motive (p :: rest))
    (fun t rest ih => text t rest ih) (fun el st en ch ihc rest ih => element el st en ch rest ihc ih)
    nil (fun _ ps hp hps => hp ps hps)).2 parts

theorem rtree_rtrees_induction {mt : RTree → Prop} {ml : List RTree → Prop}
    (node : ∀ r p ch, ml ch → mt (.node r p ch))
    (nil : ml []) (cons : ∀ t ts, mt t → ml ts → ml (t :: ts)) : (∀ t, mt t) ∧ ∀ ts, ml ts :=
  ⟨fun t => RTree.rec (motive_1 := mt) (motive_2 := ml) node nil cons t,
   fun ts => RTree.rec_1 (motive_1 := mt) (motive_2 := ml) node nil cons ts⟩

theorem rtrees_induction {motive : List RTree → Prop} (nil : motive [])
    (node : ∀ r p ch rest, motive ch → motive rest → motive (.node r p ch :: rest))
    (ts : List RTree) : motive ts :=
  (rtree_rtrees_induction (mt := fun t => ∀ rest, motive rest → motive (t :: rest))
    (fun r p ch ihc rest ih => node r p ch rest ihc ih) nil (fun _ ts ht hts => ht ts hts)).2 ts

end Chiritori
