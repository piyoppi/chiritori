import Chiritori.Lemmas.MarkerProps
import Chiritori.Lemmas.FormatMerge
/-
  Totality of `clean`: every step that can panic in Rust succeeds.
-/
namespace Chiritori
open Spec

def BPos (b : Bytes) (x : Nat) : Prop := isBoundary b x = true ∧ x ≤ b.length

theorem BPos.of_boundary {b : Bytes} {x : Nat} (h : isBoundary b x = true) : BPos b x := ⟨h, isBoundary_le b x h⟩

theorem BPos_blen_prefix (a c : List Char) : BPos (bytesOf (a ++ c)) (blen a) := .of_boundary (isBoundary_blen_prefix a c)

theorem BPos_zero (s : List Char) : BPos (bytesOf s) 0 := BPos_blen_prefix [] s

theorem BPos_len (b : Bytes) : BPos b b.length := .of_boundary ((isBoundary_iff b _).mpr (Or.inl rfl))

theorem BPos_of_lead (s : List Char) (i : Nat) (c : Char) (h : (bytesOf s)[i]? = some (.lead c)) :
    BPos (bytesOf s) i := .of_boundary (isBoundary_of_lead _ i c h)

theorem BPos_after_nl (s : List Char) (p : Nat) (h : (bytesOf s)[p]? = some NL) : BPos (bytesOf s) (p + 1) :=
  .of_boundary (nl_next_boundary s p h).1

theorem token_boundaries (src ds de : List Char) (ts : List Token) (h : TokensOK ds de src ts) :
    ∀ t ∈ ts, BPos (bytesOf src) t.bstart ∧ BPos (bytesOf src) t.bstop := by
  intro t ht
  obtain ⟨pre, post, hsplit⟩ := List.append_of_mem ht
  have hc := h.chain
  rw [hsplit, chainFrom_append] at hc
  obtain ⟨_, q2, _, _, q5, _⟩ := hc.2
  have hsrc : src = flat pre ++ (t.value ++ flat post) := by rw [← h.flatEq, hsplit]; simp
  rw [q5, q2, Nat.zero_add, ← blen_append, hsrc]
  exact ⟨BPos_blen_prefix _ _, List.append_assoc _ _ _ ▸ BPos_blen_prefix _ _⟩

theorem unwrapParts_nl (b : Bytes) (st en : Token) (h t : Rng) (hu : unwrapParts b st en = some (h, t)) :
    b[h.2]? = some NL ∧ 1 ≤ t.1 ∧ b[t.1 - 1]? = some NL := by
  obtain ⟨p1, p2, q1, q2, _, hp2, _, hq2, _, rfl, rfl⟩ := (unwrapParts_eq_some_iff b st en h t).mp hu
  exact ⟨(mem_lineBreaks b p2).mp (List.mem_of_find?_eq_some hp2), Nat.le_add_left 1 q2,
    (mem_lineBreaks b q2).mp (List.mem_filter.mp (List.mem_of_getLast? hq2)).1⟩

/-- Every end of what the strategy builds from two tags that stand at character boundaries is a character
    boundary: the wrapper parts end just behind a line break. -/
theorem tagEnds_BPos (s : List Char) (st en : Token)
    (hst : BPos (bytesOf s) st.bstart ∧ BPos (bytesOf s) st.bstop ∧ 0 < st.bstop)
    (hen : BPos (bytesOf s) en.bstart ∧ BPos (bytesOf s) en.bstop ∧ 0 < en.bstop) :
    TagEnds (BPos (bytesOf s)) (bytesOf s) st en := by
  refine ⟨hst.2.2, hen.1.2, hst.1, hen.2.1, fun h t hp => ?_⟩
  obtain ⟨n1, n2, n3⟩ := unwrapParts_nl _ st en h t hp
  have b3 := BPos_after_nl s (t.1 - 1) n3
  rw [Nat.sub_add_cancel n2] at b3
  exact ⟨BPos_of_lead s h.2 _ n1, b3⟩

theorem selTree_BPos (sel : Element → Bool) (s : List Char) :
    (∀ p : Part, (∀ t ∈ flattenPart p, BPos (bytesOf s) t.bstart ∧ BPos (bytesOf s) t.bstop ∧ 0 < t.bstop) →
      RAll (BPos (bytesOf s)) (selTreePart sel (bytesOf s) p)) ∧
    (∀ parts : List Part,
      (∀ t ∈ flattenParts parts, BPos (bytesOf s) t.bstart ∧ BPos (bytesOf s) t.bstop ∧ 0 < t.bstop) →
      RAll (BPos (bytesOf s)) (selTree sel (bytesOf s) parts)) := by
  refine ⟨fun p h => (selTree_RAll _ sel _).1 p fun e he => ?_, fun parts h => (selTree_RAll _ sel _).2 parts fun e he => ?_⟩
  · obtain ⟨h1, h2⟩ := elementsOfPart_mem_flatten p e.1 e.2.1 e.2.2 he
    exact tagEnds_BPos s _ _ (h _ h1) (h _ h2)
  · obtain ⟨h1, h2⟩ := elementsOf_mem_flatten parts e.1 e.2.1 e.2.2 he
    exact tagEnds_BPos s _ _ (h _ h1) (h _ h2)

theorem collect_RAll (cfg : Cfg) (s : List Char) : ∀ (parts : List Part),
    (∀ t ∈ flattenParts parts, BPos (bytesOf s) t.bstart ∧ BPos (bytesOf s) t.bstop ∧ 0 < t.bstop) →
    RAll (BPos (bytesOf s)) (collect cfg (bytesOf s) false parts).1 := by
  intro parts
  rw [(collect_eq_selTree cfg _ false).2]
  exact (selTree_BPos _ s).2 parts

theorem collectPart_RAll (cfg : Cfg) (s : List Char) : ∀ (p : Part),
    (∀ t ∈ flattenPart p, BPos (bytesOf s) t.bstart ∧ BPos (bytesOf s) t.bstop ∧ 0 < t.bstop) →
    RAll (BPos (bytesOf s)) (collectPart cfg (bytesOf s) false p).1 := by
  intro p
  rw [(collect_eq_selTree cfg _ false).1]
  exact (selTree_BPos _ s).1 p

theorem bytesOf_prefix (a1 s1 : List Char) (X : Bytes) (h : bytesOf s1 = bytesOf a1 ++ X) :
    ∃ s', s1 = a1 ++ s' ∧ X = bytesOf s' := by
  have e : s1 = a1 ++ charsOf X := by rw [← charsOf_bytesOf s1, h, charsOf_append, charsOf_bytesOf]
  exact ⟨charsOf X, e, List.append_cancel_left (by rw [← h, ← bytesOf_append, ← e])⟩

theorem BPos_of_take_eq (s s' : List Char) (p : Nat) (hb : BPos (bytesOf s) p)
    (h : (bytesOf s').take p = (bytesOf s).take p) : BPos (bytesOf s') p := by
  obtain ⟨a, _, _, hl, ht, _⟩ := split_at_boundary s p (by simpa using hb.2) hb.1
  obtain ⟨s'', e, _⟩ := bytesOf_prefix a s' ((bytesOf s').drop p) (by rw [← ht, ← h, List.take_append_drop])
  rw [e, ← hl]
  exact BPos_blen_prefix a s''

/-- deleting sorted, boundary-aligned ranges from a well-formed text always succeeds: each range is cut out of a
    text whose bytes in front of the range's end are still those of the source -/
theorem deleteAll_ok (s : List Char) (rs : List Rng) (lo : Nat) (hs : RSorted rs lo)
    (hb : ∀ r ∈ rs, BPos (bytesOf s) r.1 ∧ BPos (bytesOf s) r.2) :
    deleteAll (bytesOf s) rs = .ok (minusFrom (bytesOf s) 0 rs) := by
  induction rs generalizing lo with
  | nil => exact congrArg Except.ok (minusFrom_keep _ _ _ fun _ _ _ => rfl).symm
  | cons r rs ih =>
    obtain ⟨h1, h2, h3⟩ := hs
    have hc1 := ih r.2 h3 fun x hx => hb x (List.mem_cons_of_mem _ hx)
    obtain ⟨s1, hs1⟩ := deleteAll_wellFormed s rs _ hc1
    have hB : ∀ p, p ≤ r.2 → BPos (bytesOf s) p → BPos (minusFrom (bytesOf s) 0 rs) p := fun p hp hbp => by
      rw [hs1]
      exact BPos_of_take_eq s s1 p hbp (by rw [← hs1]; exact take_minusFrom _ rs r.2 p h3 hp hbp.2)
    obtain ⟨hb1, hb2⟩ := hb r List.mem_cons_self
    have h := (deleteAll_cons_ok_iff _ r rs _).mpr ⟨_, hc1, (validRange_iff _ _ _).mpr
      ⟨h2, (hB r.2 (Nat.le_refl _) hb2).2, (hB r.1 h2 hb1).1, (hB r.2 (Nat.le_refl _) hb2).1⟩, rfl⟩
    rw [← deleteAll_minus _ _ lo (show RSorted (r :: rs) lo from ⟨h1, h2, h3⟩) _ h]
    exact h

/-- the positions `get_removed_pos` hands to `format` -/
def positions : List Marker → Nat → List Nat
  | [], _ => []
  | m :: ms, k => (m.start - k) :: positions ms (k + (m.stop - m.start))

theorem removedPosAux_eq (ms : List Marker) (k lo hi : Nat) (hs : MSorted ms lo hi) (hk : k ≤ lo) :
    removedPosAux ms k = .ok ((positions ms k).zip (ms.map (·.pair))) := by
  induction ms generalizing k lo with
  | nil => rfl
  | cons m ms ih =>
    obtain ⟨h1, h2, h3⟩ := hs
    simp only [removedPosAux, subU_ok _ _ (Nat.le_trans hk h1), subU_ok _ _ (Nat.le_of_lt h2),
      ih (k + (m.stop - m.start)) m.stop h3 (by omega)]
    rfl

theorem getRemovedPos_eq (ms : List Marker) (hi : Nat) (hs : MSorted ms 0 hi) :
    getRemovedPos ms = .ok ((positions ms 0).zip (ms.map (·.pair))) :=
  removedPosAux_eq ms 0 0 hi hs (Nat.le_refl _)

@[simp] theorem length_positions (ms : List Marker) (k : Nat) : (positions ms k).length = ms.length := by
  induction ms generalizing k with
  | nil => rfl
  | cons m ms ih => simp [positions, ih]

theorem map_fst_zip_positions (ms : List Marker) (k : Nat) :
    ((positions ms k).zip (ms.map (·.pair))).map (·.1) = positions ms k :=
  List.map_fst_zip (by simp)

theorem isBoundary_cut (c1 : Bytes) (a z d : Nat) (haz : a ≤ z) (hz : z ≤ c1.length)
    (h : isBoundary c1 (z + d) = true) : isBoundary (c1.take a ++ c1.drop z) (a + d) = true := by
  have ha : (c1.take a).length = a := List.length_take_of_le (Nat.le_trans haz hz)
  have hz' : (c1.take z).length = z := List.length_take_of_le hz
  have e := isBoundary_append_right (c1.take z) (c1.drop z) (z + d) (Nat.le_trans (Nat.le_of_eq hz') (Nat.le_add_right z d))
  rw [List.take_append_drop, hz', Nat.add_sub_cancel_left] at e
  rw [isBoundary_append_right _ _ _ (Nat.le_trans (Nat.le_of_eq ha) (Nat.le_add_right a d)), ha, Nat.add_sub_cancel_left, ← e]
  exact h

/-- counted in the text without the markers' ranges, every position is a boundary: that of the first marker because
    the bytes in front of it are those of the source, the later ones because they were boundaries before the first
    range went and stand behind it -/
theorem positions_boundary (s : List Char) (ms : List Marker) (k lo hi : Nat) (hs : MSorted ms lo hi) (hk : k ≤ lo)
    (hb : MAll (BPos (bytesOf s)) ms) (c' : Bytes) (hc : removeMarkers (bytesOf s) ms = .ok c') :
    ∀ p ∈ positions ms k, lo ≤ p + k ∧ isBoundary c' (p + k) = true := by
  induction ms generalizing k lo c' with
  | nil => simp [positions]
  | cons m ms ih =>
    obtain ⟨h1, h2, h3⟩ := hs
    obtain ⟨s', hs'⟩ := deleteAll_wellFormed s _ c' hc
    obtain ⟨c1, hc1, hv, rfl⟩ := (deleteAll_cons_ok_iff _ (m.start, m.stop) _ c').mp hc
    intro p hp
    rcases List.mem_cons.mp hp with rfl | hp
    · rw [Nat.sub_add_cancel (Nat.le_trans hk h1)]
      refine ⟨h1, ?_⟩
      rw [hs']
      refine (BPos_of_take_eq s s' m.start (hb m List.mem_cons_self).1 ?_).1
      rw [← hs', List.take_left' (by rw [List.length_take]; have := ((validRange_iff _ _ _).mp hv).2.1; omega),
        deleteAll_minus _ _ m.stop (RSorted_of_MSorted ms m.stop hi h3) c1 hc1]
      exact take_minusFrom _ _ m.stop _ (RSorted_of_MSorted ms m.stop hi h3) (Nat.le_of_lt h2)
        (hb m List.mem_cons_self).1.2
    · obtain ⟨g1, g2⟩ := ih (k + (m.stop - m.start)) m.stop h3 (by omega)
        (fun x hx => hb x (List.mem_cons_of_mem _ hx)) c1 hc1 p hp
      -- `p` stands `d` behind the end of `m` in `c1`, hence `d` behind its start once `m` is cut out
      obtain ⟨d, hd⟩ := Nat.exists_eq_add_of_le g1
      have hpk : p + k = m.start + d := by omega
      rw [hd] at g2
      rw [hpk]
      exact ⟨Nat.le_trans h1 (Nat.le_add_right _ _),
        isBoundary_cut c1 m.start m.stop d (Nat.le_of_lt h2) ((validRange_iff _ _ _).mp hv).2.1 g2⟩

theorem fmtIndent_total (b : Bytes) (pos : Nat) : ∃ r, fmtIndent b pos = .ok r := by
  unfold fmtIndent
  split
  · exact ⟨_, rfl⟩
  · split <;> exact ⟨_, rfl⟩

theorem fmtPrev_total (b : Bytes) (pos : Nat) : ∃ r, fmtPrev b pos = .ok r := by
  unfold fmtPrev
  split <;> exact ⟨_, rfl⟩

theorem fmtNext_total (b : Bytes) (pos : Nat) : ∃ r, fmtNext b pos = .ok r := by
  unfold fmtNext
  split <;> exact ⟨_, rfl⟩

theorem fmtEmpty_total (b : Bytes) (pos : Nat) (hb : isBoundary b pos = true) : ∃ r, fmtEmpty b pos = .ok r := by
  unfold fmtEmpty
  simp only [hb, Bool.not_true, Bool.false_eq_true, ite_false]
  split
  · exact ⟨_, rfl⟩
  · split <;> exact ⟨_, rfl⟩

theorem formatBlock_total (b : Bytes) (pos : Nat) (hb : isBoundary b pos = true) :
    ∃ r, formatBlock b pos seamFormatters (pos, pos) = .ok r := by
  obtain ⟨r1, h1⟩ := fmtIndent_total b pos
  obtain ⟨r2, h2⟩ := fmtEmpty_total b pos hb
  obtain ⟨r3, h3⟩ := fmtPrev_total b pos
  obtain ⟨r4, h4⟩ := fmtNext_total b pos
  exact ⟨_, (formatBlock_seam_ok b pos _).mpr ⟨r1, r2, r3, r4, h1, h2, h3, h4, rfl⟩⟩

theorem blockRanges_total (b : Bytes) (all : List (Nat × Option Nat)) (pos : Nat) (pair : Option Nat)
    (h : ∀ i, pair = some i → i < all.length) : ∃ blk, blockRanges b all pos pair = .ok blk := by
  cases pair with
  | none => exact ⟨_, rfl⟩
  | some i =>
    simp only [blockRanges, List.getElem?_eq_getElem (h i rfl)]
    split <;> exact ⟨_, rfl⟩

theorem formatCollect_total (b : Bytes) (all : List (Nat × Option Nat)) (ps : List (Nat × Option Nat))
    (h : ∀ p ∈ ps, isBoundary b p.1 = true ∧ ∀ i, p.2 = some i → i < all.length) :
    ∃ rb, formatCollect b all ps = .ok rb := by
  induction ps with
  | nil => exact ⟨_, rfl⟩
  | cons p ps ih =>
    obtain ⟨hb, hp⟩ := h p List.mem_cons_self
    obtain ⟨r, hr⟩ := formatBlock_total b p.1 hb
    obtain ⟨blk, hblk⟩ := blockRanges_total b all p.1 p.2 hp
    obtain ⟨⟨rs, bs⟩, hrest⟩ := ih fun q hq => h q (List.mem_cons_of_mem _ hq)
    exact ⟨_, (formatCollect_cons_ok b all p.1 p.2 ps _ _).mpr ⟨r, blk, rs, bs, hr, hblk, hrest, rfl, rfl⟩⟩

theorem RangeOK.bpos {s : List Char} {r : Nat × Nat} (h : RangeOK s r) :
    BPos (bytesOf s) r.1 ∧ BPos (bytesOf s) r.2 := ⟨.of_boundary h.b1, .of_boundary h.b2⟩

theorem format_total (s : List Char) (ps : List (Nat × Option Nat))
    (h : ∀ p ∈ ps, isBoundary (bytesOf s) p.1 = true ∧ ∀ i, p.2 = some i → i < ps.length) :
    ∃ out, format (bytesOf s) ps = .ok out := by
  obtain ⟨⟨ranges, blocks⟩, hfc⟩ := formatCollect_total (bytesOf s) ps ps h
  obtain ⟨m1, m2⟩ := mergedRanges_ok s ps ps ranges blocks hfc
  have hc := deleteAll_ok s _ 0 (RSorted_of_OSorted _ (fun r hr => (m1 r hr).le) m2 0 fun _ _ => Nat.zero_le _)
    fun r hr => (m1 r hr).bpos
  simp only [format, hfc, deleteRanges_eq_deleteAll]
  exact ⟨_, hc⟩

theorem parseSource_BPos (src ds de : List Char) (hde : de ≠ []) :
    ∀ t ∈ flattenParts (parseSource src ds de),
      BPos (bytesOf src) t.bstart ∧ BPos (bytesOf src) t.bstop ∧ 0 < t.bstop := by
  obtain ⟨hok, _⟩ := tokenize_ok src ds de hde
  rw [show flattenParts (parseSource src ds de) = tokenize src ds de from parse_flatten ds de _]
  intro t ht
  obtain ⟨h1, h2⟩ := token_boundaries src ds de _ hok t ht
  exact ⟨h1, h2, by have := chain_token_bounds _ 0 0 hok.chain t ht; omega⟩

theorem markers_facts (src ds de : List Char) (cfg : Cfg) (hde : de ≠ []) :
    MSorted (buildRemoveMarker cfg (bytesOf src) (parseSource src ds de)) 0 (blen src) ∧
    MAll (BPos (bytesOf src)) (buildRemoveMarker cfg (bytesOf src) (parseSource src ds de)) ∧
    PV (buildRemoveMarker cfg (bytesOf src) (parseSource src ds de))
      (buildRemoveMarker cfg (bytesOf src) (parseSource src ds de)).length :=
  ⟨(buildRemoveMarker_spec src ds de cfg hde).1,
    (merge_P _).2 _ (collect_RAll cfg src _ (parseSource_BPos src ds de hde)),
    mergeMarkers_PV _ [] (by simp [PV])⟩

/-- C01 for `clean`: it returns -/
theorem clean_total (src ds de : List Char) (cfg : Cfg) (hde : de ≠ []) :
    ∃ out, clean src ds de cfg = .ok out := by
  obtain ⟨hs, hb, hpv⟩ := markers_facts src ds de cfg hde
  generalize hM : buildRemoveMarker cfg (bytesOf src) (parseSource src ds de) = M at hs hb hpv
  have hrm : removeMarkers (bytesOf src) M = .ok (minusFrom (bytesOf src) 0 (M.map fun m => (m.start, m.stop))) :=
    deleteAll_ok src _ 0 (RSorted_of_MSorted M 0 _ hs) fun r hr => by
      obtain ⟨m, hm, rfl⟩ := List.mem_map.mp hr
      exact hb m hm
  obtain ⟨s1, hs1⟩ := deleteAll_wellFormed src _ _ hrm
  have hbnd := positions_boundary src M 0 0 (blen src) hs (Nat.le_refl _) hb _ hrm
  obtain ⟨out, hout⟩ := format_total s1 ((positions M 0).zip (M.map (·.pair))) (by
    intro p hp
    obtain ⟨h1, h2⟩ := List.of_mem_zip hp
    refine ⟨by rw [← hs1]; exact (hbnd p.1 h1).2, fun i hi => ?_⟩
    rw [List.length_zip, length_positions, List.length_map, Nat.min_self]
    obtain ⟨m, hm, hmp⟩ := List.mem_map.mp h2
    exact hpv m hm i (hmp ▸ hi))
  refine ⟨charsOf out, ?_⟩
  simp only [clean, bind, Except.bind, pure, Except.pure, hM, hrm, getRemovedPos_eq M _ hs]
  rw [hs1, hout]

/-- `clean` deletes the ready extents of the specification and hands the rest to `format`, with the position at
    which each removed range stood in that rest and the index of the range it is paired with -/
theorem clean_ok (src ds de : List Char) (cfg : Cfg) (out : List Char) (hde : de ≠ [])
    (h : clean src ds de cfg = .ok out) :
    ∃ s1, bytesOf s1 = minusRanges (bytesOf src) (extentsOfSource src ds de cfg) ∧
      format (bytesOf s1) ((positions (buildRemoveMarker cfg (bytesOf src) (parseSource src ds de)) 0).zip
        ((buildRemoveMarker cfg (bytesOf src) (parseSource src ds de)).map (·.pair))) = .ok (bytesOf out) := by
  simp only [clean, getRemovedPos_eq _ _ (buildRemoveMarker_spec src ds de cfg hde).1] at h
  cases hrm : removeMarkers (bytesOf src) (buildRemoveMarker cfg (bytesOf src) (parseSource src ds de)) with
  | error e => simp [hrm, bind, Except.bind] at h
  | ok removed =>
    obtain ⟨s1, hs1⟩ := deleteAll_wellFormed src _ removed hrm
    refine ⟨s1, by rw [← hs1]; exact removeMarkers_source src ds de cfg hde removed hrm, ?_⟩
    rw [← hs1]
    cases hf : format removed _ with
    | error e => simp [hrm, hf, bind, Except.bind] at h
    | ok o =>
      obtain ⟨s2, hs2⟩ := (format_wsSub s1 _ o (hs1 ▸ hf)).2
      simp only [hrm, hf, bind, Except.bind, pure, Except.pure, Except.ok.injEq] at h
      rw [← h, hs2, charsOf_bytesOf]

end Chiritori
