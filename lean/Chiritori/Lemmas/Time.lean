import Chiritori.Model.Time
/-
  Calendar arithmetic, the range checks of `resolve`, and the scan of numbers written with two or four digits.
-/
namespace Chiritori

structure Date where
  y : Int
  m : Nat
  d : Nat
  deriving DecidableEq, Repr

def Date.valid (x : Date) : Prop := 1 ≤ x.m ∧ x.m ≤ 12 ∧ 1 ≤ x.d ∧ x.d ≤ daysInMonth x.y x.m

def nextDay (x : Date) : Date :=
  if x.d < daysInMonth x.y x.m then ⟨x.y, x.m, x.d + 1⟩
  else if x.m < 12 then ⟨x.y, x.m + 1, 1⟩
  else ⟨x.y + 1, 1, 1⟩

theorem isLeapYear_iff (y : Int) : isLeapYear y = true ↔ (y % 4 = 0 ∧ y % 100 ≠ 0) ∨ y % 400 = 0 := by
  simp [isLeapYear]

theorem ediv_pred (y k : Int) (hk : 0 < k) : y / k = (y - 1) / k + if y % k = 0 then 1 else 0 := by
  have h := Int.emod_add_mul_ediv y k
  have h0 := Int.emod_nonneg y (Int.ne_of_gt hk)
  have h1 := Int.emod_lt_of_pos y hk
  split
  · have := (Int.ediv_emod_unique hk (a := y - 1) (q := y / k - 1) (r := k - 1)).mpr
      ⟨by rw [Int.mul_sub, Int.mul_one]; omega, by omega, by omega⟩
    omega
  · have := (Int.ediv_emod_unique hk (a := y - 1) (q := y / k) (r := y % k - 1)).mpr
      ⟨by omega, by omega, by omega⟩
    omega

theorem emod_eq_zero_of_dvd (y : Int) {m k : Int} (d : m ∣ k) (h : y % k = 0) : y % m = 0 := by
  rw [← Int.emod_emod_of_dvd y d, h, Int.zero_emod]

theorem daysInMonth_le (y : Int) (m : Nat) : daysInMonth y m ≤ 31 := by
  unfold daysInMonth
  split <;> (try split) <;> decide

/-- The year enters `daysInMonth` only through the leap flag, so facts about all twelve months are finite. -/
theorem daysInMonth_pos (y : Int) : ∀ m, m ≤ 12 → 1 ≤ m → 1 ≤ daysInMonth y m := by
  unfold daysInMonth
  generalize isLeapYear y = l
  revert l
  decide

theorem daysBeforeMonth_succ (y : Int) {m : Nat} (h : 1 ≤ m) :
    daysBeforeMonth y (m + 1) = daysBeforeMonth y m + daysInMonth y m := by
  cases m with
  | zero => omega
  | succ k => rfl

theorem daysBeforeMonth_le (y : Int) (m : Nat) : daysBeforeMonth y m ≤ 31 * m := by
  induction m with
  | zero => exact Nat.le_refl 0
  | succ k ih =>
    cases k with
    | zero => exact Nat.zero_le _
    | succ j =>
      have := daysInMonth_le y (j + 1)
      rw [daysBeforeMonth_succ y (Nat.le_add_left 1 j)]
      omega

theorem daysBeforeMonth_13 (y : Int) : daysBeforeMonth y 13 = if isLeapYear y then 366 else 365 := by
  simp only [daysBeforeMonth]
  unfold daysInMonth
  generalize isLeapYear y = l
  cases l <;> rfl

/-- A year is as long as its twelve months. Each of the three quotients in `daysBeforeYear` steps at the multiples
    of its divisor (`ediv_pred`); the four cases are the places of `y` in the chain `400 ∣ y → 100 ∣ y → 4 ∣ y`. -/
theorem daysBeforeYear_succ (y : Int) : daysBeforeYear (y + 1) = daysBeforeYear y + daysBeforeMonth y 13 := by
  unfold daysBeforeYear
  rw [Int.add_sub_cancel, ediv_pred y 4 (by decide), ediv_pred y 100 (by decide), ediv_pred y 400 (by decide),
    daysBeforeMonth_13]
  simp only [isLeapYear_iff]
  generalize (y - 1) / 4 = a
  generalize (y - 1) / 100 = b
  generalize (y - 1) / 400 = c
  by_cases h4 : y % 4 = 0
  · by_cases h100 : y % 100 = 0
    · by_cases h400 : y % 400 = 0
      · rw [if_pos h4, if_pos h100, if_pos h400, if_pos (Or.inr h400)]; omega
      · rw [if_pos h4, if_pos h100, if_neg h400, if_neg fun h => h.elim (fun h => h.2 h100) h400]; omega
    · have h400 : ¬ y % 400 = 0 := fun h => h100 (emod_eq_zero_of_dvd y ⟨4, rfl⟩ h)
      rw [if_pos h4, if_neg h100, if_neg h400, if_pos (Or.inl ⟨h4, h100⟩)]; omega
  · have h100 : ¬ y % 100 = 0 := fun h => h4 (emod_eq_zero_of_dvd y ⟨25, rfl⟩ h)
    have h400 : ¬ y % 400 = 0 := fun h => h100 (emod_eq_zero_of_dvd y ⟨4, rfl⟩ h)
    rw [if_neg h4, if_neg h100, if_neg h400, if_neg fun h => h.elim (fun h => h4 h.1) h400]; omega

-- round numbers outside `daysBeforeYear 0 = -719528` and `daysBeforeYear 10000 = 2932897`
theorem daysBeforeYear_bounds (y : Int) (h0 : 0 ≤ y) (h1 : y < 10000) :
    -720000 ≤ daysBeforeYear y ∧ daysBeforeYear y < 3000000 := by
  unfold daysBeforeYear
  omega

/-- The day number increases by exactly one from each valid date to the next:
    with `daysFromCivil 1970 1 1 = 0` this characterises `daysFromCivil` on all valid dates. -/
theorem daysFromCivil_nextDay (x : Date) (h : x.valid) :
    daysFromCivil (nextDay x).y (nextDay x).m (nextDay x).d = daysFromCivil x.y x.m x.d + 1 := by
  obtain ⟨y, m, d⟩ := x
  obtain ⟨h1, h2, h3, h4⟩ : 1 ≤ m ∧ m ≤ 12 ∧ 1 ≤ d ∧ d ≤ daysInMonth y m := h
  simp only [nextDay]
  split
  · simp only [daysFromCivil]
    omega
  · split
    · simp only [daysFromCivil, daysBeforeMonth_succ y h1]
      omega
    · obtain rfl : m = 12 := by omega
      simp only [daysFromCivil, daysBeforeYear_succ, daysBeforeMonth_succ y (m := 12) (by decide)]
      have : daysBeforeMonth (y + 1) 1 = 0 := rfl
      omega

theorem nextDay_valid (x : Date) (h : x.valid) : (nextDay x).valid := by
  obtain ⟨y, m, d⟩ := x
  obtain ⟨h1, h2, h3, h4⟩ : 1 ≤ m ∧ m ≤ 12 ∧ 1 ≤ d ∧ d ≤ daysInMonth y m := h
  simp only [nextDay]
  split
  · rename_i hd
    exact ⟨h1, h2, Nat.le_add_left 1 d, hd⟩
  · split
    · rename_i hm
      exact ⟨Nat.le_add_left 1 m, hm, Nat.le_refl 1, daysInMonth_pos y _ hm (Nat.le_add_left 1 m)⟩
    · exact ⟨Nat.le_refl 1, (by decide : 1 ≤ 12), Nat.le_refl 1, daysInMonth_pos (y + 1) 1 (by decide) (Nat.le_refl 1)⟩

theorem ite_none_eq_some {α : Type} (c : Prop) [Decidable c] (x : Option α) (a : α) :
    (if c then none else x) = some a ↔ ¬ c ∧ x = some a := by
  split <;> simp [*]

/-- `resolve` succeeds exactly when each of its checks passes, in the order in which it makes them. -/
theorem resolve_eq_some_iff (f : Fields) (i : Instant) :
    resolve f = some i ↔
      (1 ≤ f.month ∧ f.month ≤ 12) ∧ (1 ≤ f.day ∧ f.day ≤ 31) ∧ f.hour ≤ 23 ∧ f.minute ≤ 59 ∧ f.second ≤ 60 ∧
      (minYear ≤ f.year ∧ f.year ≤ maxYear) ∧ f.day ≤ daysInMonth f.year f.month ∧
      (-86400 < f.off ∧ f.off < 86400) ∧
      (daysFromCivil minYear 1 1 * 86400 ≤
          epochOf f.year f.month f.day f.hour f.minute (if f.second = 60 then 59 else f.second) - f.off ∧
        epochOf f.year f.month f.day f.hour f.minute (if f.second = 60 then 59 else f.second) - f.off <
          (daysFromCivil maxYear 12 31 + 1) * 86400) ∧
      (epochOf f.year f.month f.day f.hour f.minute (if f.second = 60 then 59 else f.second) - f.off,
        if f.second = 60 then 1000000000 else 0) = i := by
  simp only [resolve, ite_none_eq_some, Option.some.injEq, not_or, Nat.not_lt, Int.not_lt, Int.not_le,
    gt_iff_lt, ge_iff_le]

theorem instantLt_mono (a b : Instant) {ex : Instant} (hab : a.1 < b.1 ∨ (a.1 = b.1 ∧ a.2 ≤ b.2))
    (h : instantLt a ex = false) : instantLt b ex = false := by
  simp only [instantLt, Bool.or_eq_false_iff, decide_eq_false_iff_not, Bool.and_eq_false_iff, beq_eq_false_iff_ne] at h ⊢
  omega

theorem trimStartWs_eq_dropWhile : ∀ s, trimStartWs s = s.dropWhile isWhitespace
  | [] => rfl
  | c :: cs => by
    rw [trimStartWs, List.dropWhile_cons, trimStartWs_eq_dropWhile cs]

theorem colonOrSpace_eq_dropWhile : ∀ s, colonOrSpace s = s.dropWhile fun c => decide (c = ':' ∨ isWhitespace c)
  | [] => rfl
  | c :: cs => by
    simp only [colonOrSpace, List.dropWhile_cons, decide_eq_true_eq, colonOrSpace_eq_dropWhile cs]

theorem trimStartWs_cons_ws {c : Char} (h : isWhitespace c = true) (cs : List Char) :
    trimStartWs (c :: cs) = trimStartWs cs := by
  rw [trimStartWs, if_pos h]

theorem trimStartWs_cons_of_not_ws {c : Char} (h : isWhitespace c = false) (cs : List Char) :
    trimStartWs (c :: cs) = c :: cs := by
  rw [trimStartWs, if_neg (by rw [h]; decide)]

theorem literal_cons (c : Char) (rest : List Char) : literal c (c :: rest) = some rest := by
  rw [literal, if_pos rfl]

/-- What a successful run of the item loop went through: every item consumed a piece and the offset consumed
    the rest. -/
theorem parseFields_eq_some {s : List Char} {f : Fields} (h : parseFields s = some f) :
    ∃ s1 s2 s3 s4 s5 s6 s7 s8 s9 s10,
      parseYear s = some (f.year, s1) ∧ literal '-' s1 = some s2 ∧ parseNum2 s2 = some (f.month, s3) ∧
      literal '-' s3 = some s4 ∧ parseNum2 s4 = some (f.day, s5) ∧ parseNum2 (trimStartWs s5) = some (f.hour, s6) ∧
      literal ':' s6 = some s7 ∧ parseNum2 s7 = some (f.minute, s8) ∧ literal ':' s8 = some s9 ∧
      parseNum2 s9 = some (f.second, s10) ∧ scanOffset (trimStartWs (trimStartWs s10)) = some (f.off, []) := by
  obtain ⟨⟨y, s1⟩, hy, h⟩ := Option.bind_eq_some_iff.mp h
  obtain ⟨s2, h1, h⟩ := Option.bind_eq_some_iff.mp h
  obtain ⟨⟨mo, s3⟩, hmo, h⟩ := Option.bind_eq_some_iff.mp h
  obtain ⟨s4, h2, h⟩ := Option.bind_eq_some_iff.mp h
  obtain ⟨⟨d, s5⟩, hd, h⟩ := Option.bind_eq_some_iff.mp h
  obtain ⟨⟨hr, s6⟩, hh, h⟩ := Option.bind_eq_some_iff.mp h
  obtain ⟨s7, h3, h⟩ := Option.bind_eq_some_iff.mp h
  obtain ⟨⟨mi, s8⟩, hmi, h⟩ := Option.bind_eq_some_iff.mp h
  obtain ⟨s9, h4, h⟩ := Option.bind_eq_some_iff.mp h
  obtain ⟨⟨sec, s10⟩, hs, h⟩ := Option.bind_eq_some_iff.mp h
  obtain ⟨⟨off, s11⟩, ho, h⟩ := Option.bind_eq_some_iff.mp h
  cases s11 with
  | cons c cs => cases h
  | nil =>
    cases h
    exact ⟨s1, s2, s3, s4, s5, s6, s7, s8, s9, s10, hy, h1, hmo, h2, hd, hh, h3, hmi, h4, hs, ho⟩

def dch (k : Nat) : Char := Char.ofNat (48 + k)

theorem digit_facts : ∀ k : Fin 10,
    isDigit (dch k.val) = true ∧ digitVal (dch k.val) = k.val ∧ isWhitespace (dch k.val) = false ∧
    dch k.val ≠ '-' ∧ dch k.val ≠ '+' ∧ dch k.val ≠ ':' := by decide

theorem isDigit_dch (k : Nat) (h : k < 10) : isDigit (dch k) = true := (digit_facts ⟨k, h⟩).1
theorem digitVal_dch (k : Nat) (h : k < 10) : digitVal (dch k) = k := (digit_facts ⟨k, h⟩).2.1
theorem notWs_dch (k : Nat) (h : k < 10) : isWhitespace (dch k) = false := (digit_facts ⟨k, h⟩).2.2.1
theorem dch_ne_minus (k : Nat) (h : k < 10) : dch k ≠ '-' := (digit_facts ⟨k, h⟩).2.2.2.1
theorem dch_ne_plus (k : Nat) (h : k < 10) : dch k ≠ '+' := (digit_facts ⟨k, h⟩).2.2.2.2.1
theorem dch_ne_colon (k : Nat) (h : k < 10) : dch k ≠ ':' := (digit_facts ⟨k, h⟩).2.2.2.2.2

def d2 (n : Nat) : List Char := [dch (n / 10), dch (n % 10)]
def d4 (n : Nat) : List Char := [dch (n / 1000), dch (n / 100 % 10), dch (n / 10 % 10), dch (n % 10)]

theorem scanDigits_dch (ks : List Nat) (h : ∀ k ∈ ks, k < 10) (rest : List Char) :
    ∀ acc n, scanDigits ks.length (ks.map dch ++ rest) acc n =
      (ks.foldl (fun a k => a * 10 + k) acc, n + ks.length, rest) := by
  induction ks with
  | nil => intro acc n; rfl
  | cons k ks ih =>
    intro acc n
    have hk := h k List.mem_cons_self
    rw [List.map_cons, List.cons_append, List.length_cons, scanDigits, if_pos (isDigit_dch k hk), digitVal_dch k hk,
      ih (fun j hj => h j (List.mem_cons_of_mem k hj)), List.foldl_cons, Nat.add_assoc, Nat.add_comm 1]

theorem scanNumber_dch (k : Nat) (ks : List Nat) (h : ∀ j ∈ k :: ks, j < 10) (rest : List Char) :
    scanNumber ((k :: ks).map dch ++ rest) (k :: ks).length = some ((k :: ks).foldl (fun a k => a * 10 + k) 0, rest) := by
  rw [scanNumber, scanDigits_dch (k :: ks) h]
  rfl

theorem mod_ten_lt (n : Nat) : n % 10 < 10 := Nat.mod_lt n (by decide)

theorem scanNumber_d2 (n : Nat) (h : n < 100) (rest : List Char) :
    scanNumber (d2 n ++ rest) 2 = some (n, rest) := by
  have e : (0 * 10 + n / 10) * 10 + n % 10 = n := by rw [Nat.zero_mul, Nat.zero_add, Nat.div_add_mod']
  have hd : ∀ j ∈ [n / 10, n % 10], j < 10 := by
    simp only [List.forall_mem_cons]
    exact ⟨Nat.div_lt_of_lt_mul h, mod_ten_lt _, nofun⟩
  have := scanNumber_dch _ _ hd rest
  rwa [List.foldl_cons, List.foldl_cons, List.foldl_nil, e] at this

theorem scanNumber_d4 (n : Nat) (h : n < 10000) (rest : List Char) :
    scanNumber (d4 n ++ rest) 4 = some (n, rest) := by
  have e : (((0 * 10 + n / 1000) * 10 + n / 100 % 10) * 10 + n / 10 % 10) * 10 + n % 10 = n := by
    rw [Nat.zero_mul, Nat.zero_add, ← Nat.div_div_eq_div_mul n 100 10, Nat.div_add_mod',
      ← Nat.div_div_eq_div_mul n 10 10, Nat.div_add_mod', Nat.div_add_mod']
  have hd : ∀ j ∈ [n / 1000, n / 100 % 10, n / 10 % 10, n % 10], j < 10 := by
    simp only [List.forall_mem_cons]
    exact ⟨Nat.div_lt_of_lt_mul h, mod_ten_lt _, mod_ten_lt _, mod_ten_lt _, nofun⟩
  have := scanNumber_dch _ _ hd rest
  rwa [List.foldl_cons, List.foldl_cons, List.foldl_cons, List.foldl_cons, List.foldl_nil, e] at this

theorem trimStartWs_d2 (n : Nat) (h : n < 100) (rest : List Char) : trimStartWs (d2 n ++ rest) = d2 n ++ rest :=
  trimStartWs_cons_of_not_ws (notWs_dch _ (Nat.div_lt_of_lt_mul h)) _

theorem parseNum2_d2 (n : Nat) (h : n < 100) (rest : List Char) : parseNum2 (d2 n ++ rest) = some (n, rest) := by
  rw [parseNum2, trimStartWs_d2 n h, scanNumber_d2 n h]

theorem parseYear_d4 (n : Nat) (h : n < 10000) (rest : List Char) :
    parseYear (d4 n ++ rest) = some ((n : Int), rest) := by
  have h1 : n / 1000 < 10 := Nat.div_lt_of_lt_mul h
  have hts : trimStartWs (d4 n ++ rest) = d4 n ++ rest := trimStartWs_cons_of_not_ws (notWs_dch _ h1) _
  unfold parseYear
  rw [hts]
  split
  · rename_i heq; injection heq with h0 _; exact absurd h0 (dch_ne_minus _ h1)
  · rename_i heq; injection heq with h0 _; exact absurd h0 (dch_ne_plus _ h1)
  · rw [scanNumber_d4 n h]; rfl

end Chiritori
