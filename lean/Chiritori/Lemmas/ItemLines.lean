import Chiritori.Lemmas.RustLines
import Chiritori.Lemmas.Lines
import Chiritori.Lemmas.ListTotal
/-
  The lines a list item shows are lines of the source: the text between the line start in front of the region
  and the line end behind it is a run of whole source lines (`srcLines_window`), and the three slices the item is
  made of are that text (`geomOf_window`).
-/
namespace Chiritori
open Spec

theorem slices_concat {α} (l : List α) (i j k : Nat) (hij : i ≤ j) (hjk : j ≤ k) :
    (l.take j).drop i ++ (l.take k).drop j = (l.take k).drop i := by
  have e : l.take j = (l.take k).take j := by rw [List.take_take, Nat.min_eq_left hjk]
  rw [e, List.drop_take]
  conv => rhs; rw [← List.take_append_drop (j - i) ((l.take k).drop i), List.drop_drop, show i + (j - i) = j by omega]

theorem take_append_slice {α} (l : List α) (i j : Nat) (hij : i ≤ j) : l.take i ++ (l.take j).drop i = l.take j := by
  simpa using slices_concat l 0 i j (Nat.zero_le _) hij

theorem getElem?_slice {α} (l : List α) (i j k : Nat) :
    ((l.take j).drop i)[k]? = if i + k < j then l[i + k]? else none := by
  rw [List.getElem?_drop, List.getElem?_take]

theorem take_succ_of_getElem? {α} {l : List α} {i : Nat} {x : α} (h : l[i]? = some x) :
    l.take (i + 1) = l.take i ++ [x] := by
  rw [List.take_add_one, h]; rfl

theorem drop_of_getElem? {α} {l : List α} {i : Nat} {x : α} (h : l[i]? = some x) : l.drop i = x :: l.drop (i + 1) := by
  obtain ⟨hlt, rfl⟩ := List.getElem?_eq_some_iff.mp h
  exact List.drop_eq_getElem_cons hlt

theorem slice_append_mid {α} (A B C : List α) : ((A ++ (B ++ C)).take (A.length + B.length)).drop A.length = B := by
  rw [← List.append_assoc, List.take_append_of_le_length (by simp), List.take_of_length_le (by simp),
    List.drop_left]

theorem getElem?_append_mid_last {α} (A B C : List α) (hB : B ≠ []) :
    (A ++ (B ++ C))[A.length + B.length - 1]? = B.getLast? := by
  rw [← List.append_assoc, ← List.length_append,
    List.getElem?_append_left (Nat.sub_lt (List.length_pos_iff.mpr (by simp [hB])) Nat.one_pos),
    ← List.getLast?_eq_getElem?, getLast?_append_ne _ _ hB]

theorem mem_charsOf : ∀ (b : Bytes) (c : Char), c ∈ charsOf b ↔ ABy.lead c ∈ b
  | [], _ => by simp [charsOf]
  | .lead d :: bs, c => by simp [charsOf, mem_charsOf bs c]
  | .cont :: bs, c => by simp [charsOf, mem_charsOf bs c]

theorem slice_chars (s : List Char) (i j : Nat) (c : Char) (h : c ∈ charsOf (((bytesOf s).take j).drop i)) : c ∈ s :=
  (lead_mem_bytesOf_iff c s).mp (List.mem_of_mem_take (List.mem_of_mem_drop ((mem_charsOf _ c).mp h)))

theorem count_lineMapAux : ∀ (bs : Bytes) (off k : Nat),
    ((lineMapAux bs off).filter fun p => decide (p < off + k)).length = (bs.take k).count NL
  | [], _, _ => by simp [lineMapAux]
  | x :: rest, off, 0 => by
    simp only [Nat.add_zero, List.take_zero, List.count_nil, List.length_eq_zero_iff, List.filter_eq_nil_iff]
    intro p hp
    have := (mem_lineMapAux (x :: rest) off p).mp hp
    simp; omega
  | x :: rest, off, k + 1 => by
    have ih := count_lineMapAux rest (off + 1) k
    rw [show off + 1 + k = off + (k + 1) by omega] at ih
    cases x with
    | cont =>
      simp only [lineMapAux, List.take_succ_cons, ih]
      rw [List.count_cons_of_ne (by decide)]
    | lead c =>
      simp only [lineMapAux, List.take_succ_cons]
      by_cases hc : c = '\n'
      · subst hc
        simp only [ite_true, List.filter_cons]
        rw [if_pos (by simp)]
        simp only [List.length_cons, ih]
        rw [show (ABy.lead '\n') = NL from rfl, List.count_cons_self]
      · simp only [hc, ite_false, ih]
        rw [List.count_cons_of_ne (by intro h; injection h with h; exact hc h)]

theorem count_lineBreaks (b : Bytes) (x : Nat) :
    ((lineBreaks b).filter fun p => decide (p < x)).length = (b.take x).count NL := by
  have := count_lineMapAux b 0 x
  simpa [lineBreaks, buildLineMap] using this

theorem count_charsOf : ∀ (bs : Bytes), (charsOf bs).count '\n' = bs.count NL
  | [] => rfl
  | .cont :: rest => by
    simp only [charsOf, count_charsOf rest]
    rw [List.count_cons_of_ne (by decide)]
  | .lead c :: rest => by
    simp only [charsOf]
    by_cases hc : c = '\n'
    · subst hc
      rw [List.count_cons_self, show (ABy.lead '\n') = NL from rfl, List.count_cons_self, count_charsOf rest]
    · rw [List.count_cons_of_ne hc, List.count_cons_of_ne (by intro h; injection h with h; exact hc h),
        count_charsOf rest]

theorem count_take_of_none (b : Bytes) (i j : Nat) (hij : i ≤ j) (h : ∀ k, i ≤ k → k < j → b[k]? ≠ some NL) :
    (b.take j).count NL = (b.take i).count NL := by
  have hz : ((b.take j).drop i).count NL = 0 := by
    rw [List.count_eq_zero]
    intro hx
    obtain ⟨k, hk⟩ := List.getElem?_of_mem hx
    rw [getElem?_slice] at hk
    split at hk
    · exact h (i + k) (by omega) (by omega) hk
    · cases hk
  rw [← take_append_slice b i j hij, List.count_append, hz, Nat.add_zero]

/-- the line numbers `list` reports against the line breaks around a stretch `ls .. le` of the text that begins in
    the line of `start` and reaches the last byte of the region: `first - 1` line breaks stand in front of it, and at
    least `last - first` inside -/
theorem line_numbers_window (b : Bytes) (ls start stop le a z : Nat) (h1 : ls ≤ start) (hlt : start < stop)
    (hle : stop - 1 ≤ le) (h3 : ∀ i, ls ≤ i → i < start → b[i]? ≠ some NL)
    (ha : a = 1 + ((lineBreaks b).filter fun p => decide (p < start)).length)
    (hz : z = 1 + ((lineBreaks b).filter fun p => decide (p < stop - 1)).length) :
    (b.take ls).count NL = a - 1 ∧ z + 1 - a ≤ ((b.take le).drop ls).count NL + 1 := by
  have hij : ls ≤ stop - 1 := Nat.le_trans h1 (Nat.le_sub_one_of_lt hlt)
  rw [count_lineBreaks] at ha hz
  rw [count_take_of_none b ls start h1 h3] at ha
  rw [← take_append_slice b ls (stop - 1) hij, List.count_append] at hz
  rw [← slices_concat b ls (stop - 1) le hij hle, List.count_append]
  omega

/-- the start of the line of `pos`: 0 or just behind a line break, with no line break between it and `pos` -
    provided the text does not begin with a line break (known finding D8: index 0 is never examined) -/
theorem lineStartOf_spec (b : Bytes) (pos : Nat) (hpos : pos ≤ b.length) (h0 : b[0]? ≠ some NL) :
    lineStartOf b pos ≤ pos ∧ (lineStartOf b pos = 0 ∨ b[lineStartOf b pos - 1]? = some NL) ∧
    ∀ i, lineStartOf b pos ≤ i → i < pos → b[i]? ≠ some NL := by
  obtain ⟨h1, h2, h3⟩ := lineStartOf_facts b pos hpos
  refine ⟨h1, h2.imp id And.right, fun i hi1 hi2 => ?_⟩
  cases i with
  | zero => exact h0
  | succ i => exact h3 _ hi1 hi2 (Nat.succ_pos i)

theorem lineEndOf_at_nl (b : Bytes) (p : Nat) (hp : 0 < p) (h : b[p]? = some NL) : lineEndOf b p = p := by
  obtain ⟨c1, _, _, c4⟩ := lineEndOf_facts b p (Nat.le_of_lt (lt_of_getElem?_some _ _ _ h))
  by_cases hv : lineEndOf b p = p
  · exact hv
  · exact absurd h (c4 hp p (Nat.le_refl _) (by omega))

theorem lineEndOf_gt (b : Bytes) (p : Nat) (hp : p < b.length) (h : b[p]? ≠ some NL) : p < lineEndOf b p := by
  obtain ⟨c1, _, c3, _⟩ := lineEndOf_facts b p (Nat.le_of_lt hp)
  refine Nat.lt_of_le_of_ne c1 fun he => ?_
  rcases c3 with c3 | c3
  · omega
  · exact h (he ▸ c3)

theorem srcLines_window (s : List Char) (ls le : Nat) (hle : ls ≤ le)
    (hls : ls = 0 ∨ (bytesOf s)[ls - 1]? = some NL) (hlE : le = (bytesOf s).length ∨ (bytesOf s)[le]? = some NL)
    (n : Nat) (hn : n ≤ (((bytesOf s).take le).drop ls).count NL + 1) :
    ((linesT s []).drop (((bytesOf s).take ls).count NL)).take n =
      (linesT (charsOf (((bytesOf s).take le).drop ls)) []).take n := by
  have hs : s = charsOf ((bytesOf s).take ls) ++ (charsOf (((bytesOf s).take le).drop ls)
      ++ charsOf ((bytesOf s).drop le)) := by
    rw [← charsOf_append, ← charsOf_append, ← List.append_assoc, take_append_slice _ ls le hle, List.take_append_drop,
      charsOf_bytesOf]
  have hA : charsOf ((bytesOf s).take ls) = [] ∨ ∃ A', charsOf ((bytesOf s).take ls) = A' ++ ['\n'] := by
    cases ls with
    | zero => exact Or.inl rfl
    | succ k =>
      rcases hls with hls | hls
      · cases hls
      · rw [Nat.add_sub_cancel] at hls
        exact Or.inr ⟨_, by rw [take_succ_of_getElem? hls, charsOf_append]; rfl⟩
  have hB : charsOf ((bytesOf s).drop le) = [] ∨ ∃ B', charsOf ((bytesOf s).drop le) = '\n' :: B' := by
    rcases hlE with hlE | hlE
    · exact Or.inl (by rw [hlE, List.drop_length]; rfl)
    · exact Or.inr ⟨_, by rw [drop_of_getElem? hlE]; rfl⟩
  have key := linesT_window _ _ _ hA hB n (by rw [linesT_length, count_charsOf]; exact hn)
  rwa [← hs, count_charsOf] at key

theorem geomOf_pre (b : Bytes) (start stop : Nat) (lr : Option (Nat × Nat)) :
    (geomOf b start stop lr).pre = (b.take start).drop (lineStartOf b start) := rfl

theorem geomOf_mid (b : Bytes) (start stop : Nat) (lr : Option (Nat × Nat)) :
    (geomOf b start stop lr).mid = (b.take (colorEndOf b start stop (lineEndOf b (stop - 1)))).drop start := rfl

theorem geomOf_post (b : Bytes) (start stop : Nat) (lr : Option (Nat × Nat)) :
    (geomOf b start stop lr).post =
      (b.take (lineEndOf b (stop - 1))).drop (colorEndOf b start stop (lineEndOf b (stop - 1))) := rfl

theorem geomOf_window (b : Bytes) (start stop : Nat) (lr : Option (Nat × Nat))
    (h1 : lineStartOf b start ≤ start) (h2 : start ≤ colorEndOf b start stop (lineEndOf b (stop - 1)))
    (h3 : colorEndOf b start stop (lineEndOf b (stop - 1)) ≤ lineEndOf b (stop - 1)) :
    charsOf (geomOf b start stop lr).pre ++ (charsOf (geomOf b start stop lr).mid ++ charsOf (geomOf b start stop lr).post) =
      charsOf ((b.take (lineEndOf b (stop - 1))).drop (lineStartOf b start)) := by
  rw [← charsOf_append, ← charsOf_append, geomOf_pre, geomOf_mid, geomOf_post, slices_concat _ _ _ _ h2 h3,
    slices_concat _ _ _ _ h1 (Nat.le_trans h2 h3)]

theorem geom_chars (s : List Char) (start stop : Nat) (lr : Option (Nat × Nat)) (c : Char)
    (h : c ∈ charsOf (geomOf (bytesOf s) start stop lr).pre ∨ c ∈ charsOf (geomOf (bytesOf s) start stop lr).mid ∨
      c ∈ charsOf (geomOf (bytesOf s) start stop lr).post) : c ∈ s := by
  rcases h with h | h | h <;> exact slice_chars s _ _ c h

theorem colorEndOf_eq_min (b : Bytes) (start stop le : Nat) (h : b[min stop le - 1]? ≠ some (.lead '\r')) :
    colorEndOf b start stop le = min stop le := by
  rcases colorEndOf_cases b start stop le with ⟨_, _, _, hc⟩ | ⟨he, _⟩
  · exact absurd hc h
  · exact he

end Chiritori
