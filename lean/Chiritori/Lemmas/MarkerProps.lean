import Chiritori.Lemmas.MergeMarkers
/-
  More about `merge_markers`: every endpoint of an output marker is an endpoint of some node of the tree
  (so predicates such as "is a character boundary" carry over), and pair indices stay inside the list.
-/
namespace Chiritori

mutual
/-- every endpoint of every node satisfies `P` -/
def RAll (P : Nat → Prop) : List RTree → Prop
  | [] => True
  | t :: ts => RTreeAll P t ∧ RAll P ts
def RTreeAll (P : Nat → Prop) : RTree → Prop
  | .node r pair ch =>
    P r.1 ∧ P r.2 ∧ (match pair with | some t => P t.1 ∧ P t.2 | none => True) ∧ RAll P ch
end

theorem RAll_append (P : Nat → Prop) (a b : List RTree) (ha : RAll P a) (hb : RAll P b) : RAll P (a ++ b) := by
  induction a with
  | nil => exact hb
  | cons t ts ih => exact ⟨ha.1, ih ha.2⟩

def MAll (P : Nat → Prop) (ms : List Marker) : Prop := ∀ m ∈ ms, P m.start ∧ P m.stop

theorem MAll_append (P : Nat → Prop) (a b : List Marker) : MAll P (a ++ b) ↔ MAll P a ∧ MAll P b := by
  simp only [MAll, List.mem_append, or_imp]
  exact forall_and

theorem MAll_single (P : Nat → Prop) (s e : Nat) (p : Option Nat) : MAll P [⟨s, e, p⟩] ↔ P s ∧ P e := by
  simp only [MAll, List.mem_singleton, forall_eq]

theorem MAll_map (P : Nat → Prop) (f : Marker → Marker) (hf : ∀ m, (f m).start = m.start ∧ (f m).stop = m.stop)
    (ms : List Marker) (h : MAll P ms) : MAll P (ms.map f) := by
  intro x hx
  obtain ⟨m, hm, rfl⟩ := List.mem_map.mp hx
  rw [(hf m).1, (hf m).2]
  exact h m hm

theorem mergeChildMarkers_P (P : Nat → Prop) (cm : List Marker) (m : Rng) (hc : MAll P cm) (h1 : P m.1) (h2 : P m.2) :
    P (mergeChildMarkers cm m).2.1 ∧ P (mergeChildMarkers cm m).2.2 := by
  induction cm generalizing m with
  | nil => exact ⟨h1, h2⟩
  | cons c cs ih =>
    rw [mergeChildMarkers_cons]
    split
    · have hcc := hc c List.mem_cons_self
      refine ih _ (fun x hx => hc x (List.mem_cons_of_mem _ hx)) ?_ ?_
      · rcases Nat.le_total m.1 c.start with h | h
        · rw [Nat.min_eq_left h]; exact h1
        · rw [Nat.min_eq_right h]; exact hcc.1
      · rcases Nat.le_total m.2 c.stop with h | h
        · rw [Nat.max_eq_right h]; exact hcc.2
        · rw [Nat.max_eq_left h]; exact h2
    · exact ⟨h1, h2⟩

theorem unwrapMarkers_P (P : Nat → Prop) (cur : Nat) (cm : List Marker) (k : Nat) (hd : Rng) (n : Nat) (tl : Rng)
    (hcm : MAll P cm) (hhd : P hd.1 ∧ P hd.2) (htl : P tl.1 ∧ P tl.2) : MAll P (unwrapMarkers cur cm k hd n tl) := by
  unfold unwrapMarkers
  split
  · exact (MAll_single _ _ _ _).mpr ⟨hhd.1, htl.2⟩
  · rw [MAll_append, MAll_append, MAll_single, MAll_single]
    exact ⟨⟨hhd, MAll_map P _ (rebase_ends _ _ _) _ fun m hm => hcm m (List.mem_of_mem_drop (List.mem_of_mem_take hm))⟩,
      htl⟩

theorem merge_P (P : Nat → Prop) :
    (∀ t, RTreeAll P t → MAll P (mergeTree t [])) ∧ (∀ ts, RAll P ts → MAll P (mergeMarkers ts [])) := by
  apply rtree_rtrees_induction
  · intro r pair ch ih hr
    obtain ⟨p1, p2, pp, pch⟩ := hr
    have hcm := ih pch
    have hhd := mergeChildMarkers_P P _ r hcm p1 p2
    cases pair with
    | none =>
      rw [mergeTree_default_eq, List.nil_append]
      exact (MAll_single _ _ _ _).mpr hhd
    | some t =>
      rw [mergeTree_unwrap_eq, List.nil_append]
      exact unwrapMarkers_P P _ _ _ _ _ _ hcm hhd (mergeChildMarkers_P P _ t
        (fun m hm => hcm m (List.mem_of_mem_drop (List.mem_reverse.mp hm))) pp.1 pp.2)
  · intro _ m hm; cases hm
  · intro t ts iht ihts hr
    simp only [mergeMarkers]
    rw [mergeMarkers_acc, MAll_append]
    exact ⟨iht hr.1, MAll_map P _ (shift_ends _) _ (ihts hr.2)⟩

theorem mergeMarkers_len : ∀ (ts : List RTree) (acc : List Marker), acc.length ≤ (mergeMarkers ts acc).length := by
  intro ts acc
  rw [mergeMarkers_acc, List.length_append]
  exact Nat.le_add_right _ _

/-- every pair index points inside a list of length `n` -/
def PV (ms : List Marker) (n : Nat) : Prop := ∀ m ∈ ms, ∀ i, m.pair = some i → i < n

theorem PV_mono (ms : List Marker) (n n' : Nat) (h : PV ms n) (hn : n ≤ n') : PV ms n' :=
  fun m hm i hi => Nat.lt_of_lt_of_le (h m hm i hi) hn

theorem PV_append (a b : List Marker) (n : Nat) : PV (a ++ b) n ↔ PV a n ∧ PV b n := by
  simp only [PV, List.mem_append, or_imp, forall_and]

theorem PV_single (s e : Nat) (p : Option Nat) (n : Nat) : PV [⟨s, e, p⟩] n ↔ ∀ i, p = some i → i < n := by
  simp only [PV, List.mem_singleton, forall_eq]

theorem PV_shift (l : List Marker) (n k : Nat) (h : PV l n) : PV (l.map (shift k)) (n + k) := by
  intro x hx i hi
  obtain ⟨m, hm, rfl⟩ := List.mem_map.mp hx
  obtain ⟨j, hj, rfl⟩ := Option.map_eq_some_iff.mp hi
  exact Nat.add_lt_add_right (h m hm j hj) k

theorem rebase_pair (sc ec cur : Nat) (m : Marker) (j : Nat) (h : (rebase sc ec cur m).pair = some j) :
    ∃ p, m.pair = some p ∧ sc ≤ p ∧ p < ec ∧ j = p - sc + cur + 1 := by
  obtain ⟨p, hp, rfl⟩ := Option.map_eq_some_iff.mp h
  obtain ⟨hp, hq⟩ := Option.filter_eq_some_iff.mp hp
  simp only [Bool.and_eq_true, decide_eq_true_eq] at hq
  exact ⟨p, hp, hq.1, hq.2, rfl⟩

theorem unwrapMarkers_PV (cm : List Marker) (k : Nat) (hd : Rng) (n : Nat) (tl : Rng) :
    PV (unwrapMarkers 0 cm k hd n tl) (unwrapMarkers 0 cm k hd n tl).length := by
  unfold unwrapMarkers
  split
  · exact (PV_single _ _ _ _).mpr fun i hi => by cases hi
  · have hlen : ((cm.drop k).take (cm.length - n - k)).length = cm.length - n - k := by
      rw [List.length_take, List.length_drop, Nat.min_eq_left (Nat.sub_le_sub_right (Nat.sub_le _ _) _)]
    simp only [List.length_append, List.length_map, List.length_cons, List.length_nil, hlen, Nat.zero_add,
      Nat.add_comm 1]
    rw [PV_append, PV_append, PV_single, PV_single]
    refine ⟨⟨fun i hi => ?_, fun x hx i hi => ?_⟩, fun i hi => ?_⟩
    · cases hi; exact Nat.lt_succ_self _
    · obtain ⟨m, _, rfl⟩ := List.mem_map.mp hx
      obtain ⟨p, _, h1, h2, rfl⟩ := rebase_pair _ _ _ m i hi
      exact Nat.lt_succ_of_lt (Nat.succ_lt_succ (Nat.sub_lt_sub_right h1 h2))
    · cases hi; exact Nat.succ_pos _

theorem mergeTree_PV_nil (t : RTree) : PV (mergeTree t []) (mergeTree t []).length := by
  cases t with
  | node r pair ch =>
    cases pair with
    | none =>
      rw [mergeTree_default_eq, List.nil_append]
      exact (PV_single _ _ _ _).mpr fun i hi => by cases hi
    | some t =>
      rw [mergeTree_unwrap_eq, List.nil_append]
      exact unwrapMarkers_PV _ _ _ _ _

theorem PV_append_shift (acc l : List Marker) (ha : PV acc acc.length) (hl : PV l l.length) :
    PV (acc ++ l.map (shift acc.length)) (acc ++ l.map (shift acc.length)).length := by
  rw [List.length_append, List.length_map, PV_append, Nat.add_comm]
  exact ⟨PV_mono _ _ _ ha (Nat.le_add_left _ _), PV_shift l _ _ hl⟩

theorem mergeTree_PV (t : RTree) (acc : List Marker) (ha : PV acc acc.length) :
    PV (mergeTree t acc) (mergeTree t acc).length := by
  rw [mergeTree_acc]
  exact PV_append_shift acc _ ha (mergeTree_PV_nil t)

theorem mergeMarkers_PV (ts : List RTree) (acc : List Marker) (ha : PV acc acc.length) :
    PV (mergeMarkers ts acc) (mergeMarkers ts acc).length := by
  induction ts generalizing acc with
  | nil => exact ha
  | cons t ts ih => exact ih _ (mergeTree_PV t acc ha)

end Chiritori
