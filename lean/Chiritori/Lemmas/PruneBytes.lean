import Chiritori.Lemmas.Skeleton
import Chiritori.Lemmas.C14Default
import Chiritori.Lemmas.Induction
/-
  Default-strategy removal at token level: the ready extents cover whole tokens - exactly the tokens of the
  elements whose condition holds - so the tokens that survive are the tokens of the pruned forest.
-/
namespace Chiritori
open Spec

theorem BSpan_mem (ts : List Token) (lo hi : Nat) (h : BSpan ts lo hi) :
    ∀ t ∈ ts, lo ≤ t.bstart ∧ t.bstart < t.bstop ∧ t.bstop ≤ hi := by
  induction ts generalizing lo with
  | nil => intro t ht; cases ht
  | cons a as ih =>
    obtain ⟨h1, h2, h3⟩ := h
    have hle := BSpan_le as a.bstop hi h3
    intro t ht
    rcases List.mem_cons.mp ht with rfl | ht
    · exact ⟨by omega, h2, hle⟩
    · have := ih a.bstop h3 t ht
      omega

theorem BSpan_cover (ts : List Token) (lo hi x : Nat) (h : BSpan ts lo hi) (h1 : lo ≤ x) (h2 : x < hi) :
    ∃ t ∈ ts, t.bstart ≤ x ∧ x < t.bstop := by
  induction ts generalizing lo with
  | nil => cases h; omega
  | cons a as ih =>
    obtain ⟨rfl, _, h3⟩ := h
    by_cases hx : x < a.bstop
    · exact ⟨a, List.mem_cons_self, h1, hx⟩
    · obtain ⟨t, ht, g⟩ := ih a.bstop h3 (Nat.le_of_not_lt hx)
      exact ⟨t, List.mem_cons_of_mem _ ht, g⟩

theorem extentOf_default (b : Bytes) (el : Element) (st en : Token) (hu : hasAttr el "unwrap-block" = false)
    (hlt : st.bstart < en.bstop) : extentOf b el st en = [(st.bstart, en.bstop)] := by
  simp [extentOf, hu, hlt]

theorem extents_within_aux (cfg : Cfg) (b : Bytes) :
    (∀ (p : Part) (lo hi : Nat), BSpan (flattenPart p) lo hi →
      (∀ e ∈ elementsOfPart p, conditionHolds cfg e.1 = true → hasAttr e.1 "unwrap-block" = false) →
      ∀ i, inAny (extentsOfPart cfg b p) i = true → lo ≤ i ∧ i < hi) ∧
    (∀ (parts : List Part) (lo hi : Nat), BSpan (flattenParts parts) lo hi → NoReadyUnwrap cfg parts →
      ∀ i, inAny (extentsOfParts cfg b parts) i = true → lo ≤ i ∧ i < hi) := by
  apply part_parts_induction
  · intro t lo hi _ _ i hi'
    cases hi'
  · intro el st en ch ih lo hi hs hnu i hi'
    obtain ⟨rfl, hst2, mid, hch, rfl, hen2, rfl⟩ := (BSpan_element_iff el st en ch lo hi).mp hs
    obtain ⟨hself, hnuc⟩ := (noReadyUnwrap_element cfg el st en ch).mp hnu
    have hmid := BSpan_le _ st.bstop en.bstart hch
    simp only [extentsOfPart, inAny_append, Bool.or_eq_true] at hi'
    rcases hi' with h | h
    · split at h
      · rename_i hc
        rw [extentOf_default b el st en (hself hc) (by omega)] at h
        obtain ⟨_, hr, h1, h2⟩ := (inAny_iff _ i).mp h
        cases List.mem_singleton.mp hr
        exact ⟨h1, h2⟩
      · cases h
    · have := ih st.bstop en.bstart hch hnuc i h
      omega
  · intro lo hi _ _ i hi'
    cases hi'
  · intro p ps ihp ihps lo hi hs hnu i hi'
    simp only [flattenParts, BSpan_append] at hs
    obtain ⟨mid, hs1, hs2⟩ := hs
    obtain ⟨hnu1, hnu2⟩ := (noReadyUnwrap_cons cfg p ps).mp hnu
    have h1 := BSpan_le _ lo mid hs1
    have h2 := BSpan_le _ mid hi hs2
    simp only [extentsOfParts, inAny_append, Bool.or_eq_true] at hi'
    rcases hi' with h | h
    · have := ihp lo mid hs1 hnu1 i h
      omega
    · have := ihps mid hi hs2 hnu2 i h
      omega

theorem extents_within (cfg : Cfg) (b : Bytes) : ∀ (parts : List Part) (lo hi : Nat),
    BSpan (flattenParts parts) lo hi → NoReadyUnwrap cfg parts →
    ∀ i, inAny (extentsOfParts cfg b parts) i = true → lo ≤ i ∧ i < hi :=
  (extents_within_aux cfg b).2

theorem extentsPart_within (cfg : Cfg) (b : Bytes) : ∀ (p : Part) (lo hi : Nat),
    BSpan (flattenPart p) lo hi → (∀ e ∈ elementsOfPart p, conditionHolds cfg e.1 = true → hasAttr e.1 "unwrap-block" = false) →
    ∀ i, inAny (extentsOfPart cfg b p) i = true → lo ≤ i ∧ i < hi :=
  (extents_within_aux cfg b).1

theorem extents_agree_cons (cfg : Cfg) (b : Bytes) (X : List Rng) (p : Part) (ps : List Part) (lo mid hi : Nat)
    (hs1 : BSpan (flattenPart p) lo mid) (hs2 : BSpan (flattenParts ps) mid hi) (hnu : NoReadyUnwrap cfg (p :: ps))
    (hX : ∀ i, lo ≤ i → i < hi → inAny X i = inAny (extentsOfParts cfg b (p :: ps)) i) :
    (∀ i, lo ≤ i → i < mid → inAny X i = inAny (extentsOfPart cfg b p) i) ∧
    (∀ i, mid ≤ i → i < hi → inAny X i = inAny (extentsOfParts cfg b ps) i) := by
  obtain ⟨hnu1, hnu2⟩ := (noReadyUnwrap_cons cfg p ps).mp hnu
  have h1 := BSpan_le _ lo mid hs1
  have h2 := BSpan_le _ mid hi hs2
  constructor
  · intro i hi1 hi2
    rw [hX i hi1 (by omega), extentsOfParts, inAny_append]
    cases hq : inAny (extentsOfParts cfg b ps) i with
    | false => exact Bool.or_false _
    | true => have := extents_within cfg b ps mid hi hs2 hnu2 i hq; omega
  · intro i hi1 hi2
    rw [hX i (by omega) hi2, extentsOfParts, inAny_append]
    cases hq : inAny (extentsOfPart cfg b p) i with
    | false => exact Bool.false_or _
    | true => have := extentsPart_within cfg b p lo mid hs1 hnu1 i hq; omega

/-- an element that is not ready: on its span `X` is the extents of its children, which leave the two tags alone -/
theorem element_stays (cfg : Cfg) (b : Bytes) (X : List Rng) (el : Element) (st en : Token) (ch : List Part)
    (hst : st.bstart < st.bstop) (hen : en.bstart < en.bstop) (hch : BSpan (flattenParts ch) st.bstop en.bstart)
    (hnu : NoReadyUnwrap cfg ch) (hc : ¬ conditionHolds cfg el = true)
    (hX : ∀ i, st.bstart ≤ i → i < en.bstop → inAny X i = inAny (extentsOfPart cfg b (.element el st en ch)) i) :
    (∀ i, st.bstart ≤ i → i < en.bstop → inAny X i = inAny (extentsOfParts cfg b ch) i) ∧
    (∀ i, st.bstart ≤ i → i < st.bstop → inAny X i = false) ∧ (∀ i, en.bstart ≤ i → i < en.bstop → inAny X i = false) := by
  have hmid := BSpan_le _ st.bstop en.bstart hch
  have hXc : ∀ i, st.bstart ≤ i → i < en.bstop → inAny X i = inAny (extentsOfParts cfg b ch) i := by
    intro i h1 h2
    rw [hX i h1 h2, extentsOfPart, if_neg hc]
    rfl
  have hout : ∀ i, st.bstart ≤ i → i < en.bstop → (i < st.bstop ∨ en.bstart ≤ i) → inAny X i = false := by
    intro i h1 h2 h3
    rw [hXc i h1 h2]
    cases hq : inAny (extentsOfParts cfg b ch) i with
    | false => rfl
    | true => have := extents_within cfg b ch st.bstop en.bstart hch hnu i hq; omega
  exact ⟨hXc, fun i h1 h2 => hout i h1 (by omega) (Or.inl h2), fun i h1 h2 => hout i (by omega) h2 (Or.inr h1)⟩

theorem prune_tokens_aux (cfg : Cfg) (b : Bytes) (X : List Rng) :
    (∀ (p : Part) (lo hi : Nat), BSpan (flattenPart p) lo hi →
      (∀ e ∈ elementsOfPart p, conditionHolds cfg e.1 = true → hasAttr e.1 "unwrap-block" = false) →
      (∀ i, lo ≤ i → i < hi → inAny X i = inAny (extentsOfPart cfg b p) i) →
      flattenParts (prunePart (conditionHolds cfg) p) = (flattenPart p).filter (fun t => !inAny X t.bstart) ∧
      ∀ t ∈ flattenPart p, ∀ i, t.bstart ≤ i → i < t.bstop → inAny X i = inAny X t.bstart) ∧
    (∀ (parts : List Part) (lo hi : Nat), BSpan (flattenParts parts) lo hi → NoReadyUnwrap cfg parts →
      (∀ i, lo ≤ i → i < hi → inAny X i = inAny (extentsOfParts cfg b parts) i) →
      flattenParts (pruneParts (conditionHolds cfg) parts) = (flattenParts parts).filter (fun t => !inAny X t.bstart) ∧
      ∀ t ∈ flattenParts parts, ∀ i, t.bstart ≤ i → i < t.bstop → inAny X i = inAny X t.bstart) := by
  apply part_parts_induction
  · intro t lo hi hs _ hX
    obtain ⟨g1, g2, g3⟩ := hs
    cases g3
    have hout : ∀ i, lo ≤ i → i < t.bstop → inAny X i = false := fun i h1 h2 => hX i h1 h2
    refine ⟨?_, ?_⟩
    · simp only [prunePart, flattenParts, flattenPart, List.append_nil, List.filter_cons, List.filter_nil]
      rw [hout t.bstart (by omega) g2]
      rfl
    · intro t' ht' i hi1 hi2
      cases List.mem_singleton.mp ht'
      rw [hout i (by omega) hi2, hout t.bstart (by omega) g2]
  · intro el st en ch ih lo hi hs hnu hX
    have hmem := BSpan_mem _ lo hi hs
    obtain ⟨rfl, hst2, mid, hch, rfl, hen2, rfl⟩ := (BSpan_element_iff el st en ch lo hi).mp hs
    obtain ⟨hself, hnuc⟩ := (noReadyUnwrap_element cfg el st en ch).mp hnu
    have hmid := BSpan_le _ st.bstop en.bstart hch
    by_cases hc : conditionHolds cfg el = true
    · -- the whole element is covered
      have hin : ∀ i, st.bstart ≤ i → i < en.bstop → inAny X i = true := by
        intro i h1 h2
        rw [hX i h1 h2, extentsOfPart, if_pos hc, extentOf_default b el st en (hself hc) (by omega), inAny_append,
          Bool.or_eq_true]
        exact Or.inl ((inAny_iff _ i).mpr ⟨_, List.mem_singleton_self _, h1, h2⟩)
      have hin' : ∀ t ∈ flattenPart (.element el st en ch), ∀ i, t.bstart ≤ i → i < t.bstop → inAny X i = true :=
        fun t ht i h1 h2 => hin i (Nat.le_trans (hmem t ht).1 h1) (Nat.lt_of_lt_of_le h2 (hmem t ht).2.2)
      refine ⟨?_, fun t ht i hi1 hi2 => ?_⟩
      · simp only [prunePart, hc, ite_true, flattenParts]
        symm
        rw [List.filter_eq_nil_iff]
        intro t ht
        simp [hin' t ht t.bstart (Nat.le_refl _) (hmem t ht).2.1]
      · rw [hin' t ht i hi1 hi2, hin' t ht t.bstart (Nat.le_refl _) (hmem t ht).2.1]
    · -- the element stays; its children are treated recursively
      obtain ⟨hXc, houtL, houtR⟩ := element_stays cfg b X el st en ch hst2 hen2 hch hnuc hc hX
      obtain ⟨c1, c2⟩ := ih st.bstop en.bstart hch hnuc (fun i h1 h2 => hXc i (by omega) (by omega))
      have hst' := houtL st.bstart (Nat.le_refl _) hst2
      have hen' := houtR en.bstart (Nat.le_refl _) hen2
      refine ⟨?_, ?_⟩
      · simp only [prunePart, hc, Bool.false_eq_true, ite_false, flattenParts, flattenPart, List.append_nil,
          List.cons_append, List.filter_cons, List.filter_append, List.filter_nil, c1, hst', hen']
        rfl
      · intro t ht i hi1 hi2
        simp only [flattenPart, List.mem_cons, List.mem_append, List.not_mem_nil, or_false] at ht
        rcases ht with (rfl | ht) | rfl
        · rw [houtL i hi1 hi2, hst']
        · exact c2 t ht i hi1 hi2
        · rw [houtR i hi1 hi2, hen']
  · intro lo hi _ _ _
    exact ⟨rfl, fun t ht => by cases ht⟩
  · intro p ps ihp ihps lo hi hs hnu hX
    simp only [flattenParts, BSpan_append] at hs
    obtain ⟨mid, hs1, hs2⟩ := hs
    obtain ⟨hX1, hX2⟩ := extents_agree_cons cfg b X p ps lo mid hi hs1 hs2 hnu hX
    obtain ⟨hnu1, hnu2⟩ := (noReadyUnwrap_cons cfg p ps).mp hnu
    obtain ⟨a1, a2⟩ := ihp lo mid hs1 hnu1 hX1
    obtain ⟨b1, b2⟩ := ihps mid hi hs2 hnu2 hX2
    refine ⟨?_, ?_⟩
    · simp only [pruneParts, flattenParts, flattenParts_append, List.filter_append, a1, b1]
    · intro t ht
      rcases List.mem_append.mp ht with ht | ht
      · exact a2 t ht
      · exact b2 t ht

/-- the surviving tokens are those not covered, and a token is covered wholly or not at all -/
theorem prune_tokens (cfg : Cfg) (b : Bytes) (X : List Rng) : ∀ (parts : List Part) (lo hi : Nat),
    BSpan (flattenParts parts) lo hi → NoReadyUnwrap cfg parts →
    (∀ i, lo ≤ i → i < hi → inAny X i = inAny (extentsOfParts cfg b parts) i) →
    flattenParts (pruneParts (conditionHolds cfg) parts) = (flattenParts parts).filter (fun t => !inAny X t.bstart) ∧
    ∀ t ∈ flattenParts parts, ∀ i, t.bstart ≤ i → i < t.bstop → inAny X i = inAny X t.bstart :=
  (prune_tokens_aux cfg b X).2

theorem prunePart_tokens (cfg : Cfg) (b : Bytes) (X : List Rng) : ∀ (p : Part) (lo hi : Nat),
    BSpan (flattenPart p) lo hi →
    (∀ e ∈ elementsOfPart p, conditionHolds cfg e.1 = true → hasAttr e.1 "unwrap-block" = false) →
    (∀ i, lo ≤ i → i < hi → inAny X i = inAny (extentsOfPart cfg b p) i) →
    flattenParts (prunePart (conditionHolds cfg) p) = (flattenPart p).filter (fun t => !inAny X t.bstart) ∧
    ∀ t ∈ flattenPart p, ∀ i, t.bstart ≤ i → i < t.bstop → inAny X i = inAny X t.bstart :=
  (prune_tokens_aux cfg b X).1

end Chiritori
